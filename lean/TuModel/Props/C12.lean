/-
  C12 — edit distance equals the reference metric; operations() is a minimal script.

  Model: `Tu.fillTable` / `Tu.editDistance` / `Tu.prefixDistance` / `Tu.editOperations`
  (Model/Edit.lean) — the flat matrix filled cell by cell with the code's candidate order and
  first-minimum tie-breaking.  Reference: `Tu.osaR` (the recurrence as a recursive definition) and
  `Tu.Align` (edit scripts with their cost), Lemmas/EditL.lean.
-/
import TuModel.Lemmas.EditTable
import TuModel.Lemmas.EditScript
import TuModel.Lemmas.ScriptAcceptL
namespace Tu.C12
open Tu

/-- **the matrix is the reference recurrence**, cell by cell, for every pair of texts and every flag
combination -/
theorem matrix_eq_rec (fl : EFlags) (a b : List (List Nat)) (i j : Nat) (hi : i ≤ a.length) (hj : j ≤ b.length) :
    (tblGet (fillTable fl a b) (b.length + 1) i j).1 = osaR fl (a.take i).reverse (b.take j).reverse :=
  (fillTable_ok fl a b i j hi hj).1

theorem distance_eq_osa (fl : EFlags) (a b : List (List Nat)) :
    editDistance fl a b = osaR fl a.reverse b.reverse := by
  rw [editDistance_eq_refCell, refCell, List.take_length, List.take_length]

/-- the distance is a lower bound for the cost of every edit script (keep / insert / delete /
replace / adjacent transposition as the flags allow) … -/
theorem distance_le_script (fl : EFlags) (a b : List (List Nat)) (n : Nat)
    (h : Align fl a.reverse b.reverse n) : editDistance fl a b ≤ n := by
  rw [distance_eq_osa]; exact osa_min h

/-- … and some script has exactly that cost: the distance is the minimum over all scripts -/
theorem distance_attained (fl : EFlags) (a b : List (List Nat)) :
    Align fl a.reverse b.reverse (editDistance fl a b) := by
  rw [distance_eq_osa]; exact osaR_align fl _ _

/-- distance 0 exactly for equal texts (including two empty ones) -/
theorem distance_eq_zero_iff (fl : EFlags) (a b : List (List Nat)) : editDistance fl a b = 0 ↔ a = b := by
  constructor
  · exact fun h => List.reverse_inj.mp (align_zero_eq (distance_attained fl a b) h)
  · rintro rfl
    have := distance_le_script fl a a 0 (align_refl fl _)
    omega

/-- without `spaces_insert_delete_only` the distance is at most the longer length, so the
normalised value `distance / max(|a|, |b|, 1)` lies in [0, 1] -/
theorem normalized_range (fl : EFlags) (hs : fl.sid = false) (a b : List (List Nat)) :
    editDistance fl a b ≤ normDen a b := by
  obtain ⟨n, hn, hal⟩ := align_le_max fl hs a.reverse b.reverse
  have := distance_le_script fl a b n hal
  rw [List.length_reverse, List.length_reverse] at hn
  unfold normDen
  omega

/-- normalised distance of equal texts is 0, including two empty ones (the normaliser is ≥ 1) -/
theorem normalized_self (fl : EFlags) (a : List (List Nat)) : editDistance fl a a = 0 ∧ 0 < normDen a a := by
  refine ⟨(distance_eq_zero_iff fl a a).mpr rfl, ?_⟩
  unfold normDen; omega

/-- PARTIAL form of the [0,1] clause under `spaces_insert_delete_only`: the normalised value is at
most 2 (the full clause is false there: see `sid_counterexample`, known finding F12) -/
theorem normalized_range_sid_partial (fl : EFlags) (a b : List (List Nat)) :
    editDistance fl a b ≤ 2 * normDen a b := by
  have := distance_le_script fl a b _ (align_del_ins fl a.reverse b.reverse)
  rw [List.length_reverse, List.length_reverse] at this
  unfold normDen
  omega

/-- witness for F12: `distance(" ", "x")` is 2 although the longer length is 1 -/
theorem sid_counterexample :
    editDistance { swap := true, sid := true } [[32]] [[120]] = 2 ∧ normDen [[32]] [[120]] = 1 := by decide +kernel

theorem cell_eq_distance (fl : EFlags) (a b : List (List Nat)) (i j : Nat) (hi : i ≤ a.length) (hj : j ≤ b.length) :
    (tblGet (fillTable fl a b) (b.length + 1) i j).1 = editDistance fl (a.take i) (b.take j) := by
  rw [matrix_eq_rec fl a b i j hi hj, distance_eq_osa]

/-- **prefix_distance is the minimum over all prefixes of `b`** -/
theorem prefix_min (fl : EFlags) (a b : List (List Nat)) :
    prefixDistance fl a b =
      ((List.range (b.length + 1)).map (fun j => editDistance fl a (b.take j))).foldl min (editDistance fl a []) := by
  show ((List.range (b.length + 1)).map (fun j => (tblGet (fillTable fl a b) (b.length + 1) a.length j).1)).foldl min
    (tblGet (fillTable fl a b) (b.length + 1) a.length 0).1 = _
  have hcell : ∀ j, j ≤ b.length →
      (tblGet (fillTable fl a b) (b.length + 1) a.length j).1 = editDistance fl a (b.take j) := by
    intro j hj
    rw [cell_eq_distance fl a b a.length j (Nat.le_refl _) hj, List.take_length]
  rw [hcell 0 (Nat.zero_le _), List.take_zero,
    List.map_congr_left (fun j hj => hcell j (Nat.le_of_lt_succ (List.mem_range.mp hj)))]

/-! non-vacuity: a transposition is found with swaps and costs two without -/
example : editDistance { swap := true, sid := false } [[97], [98]] [[98], [97]] = 1 := by decide +kernel
example : editDistance { swap := false, sid := false } [[97], [98]] [[98], [97]] = 2 := by decide +kernel
example : editOperations { swap := true, sid := false } [[97], [98], [99]] [[98], [97], [99]] = some [(.swap, 0, 0)] := by decide +kernel
example : Align { swap := true, sid := false } [[98], [97]] [[97], [98]] 1 := .swp rfl rfl .nil

/-- **operations() is a minimal script**: the backtrace never reaches its panic branch, the script has
exactly `distance` operations, is sorted by position, and applying it to `a` yields `b` -/
theorem editOperations_ok (fl : EFlags) (a b : List (List Nat)) :
    ∃ ops, editOperations fl a b = some ops ∧
      ops.length = editDistance fl a b ∧
      applyScript a b ops 0 = b ∧
      ops.Pairwise (fun p q => p.2.1 ≤ q.2.1 ∧ p.2.2 ≤ q.2.2) := by
  obtain ⟨ops, h, ht, hl⟩ := editOperations_spec fl a b
  exact ⟨ops, h, hl, ht.sem, ht.sorted⟩

theorem opOk_flags {fl : EFlags} {a b : List (List Nat)} {p : EKind × Nat × Nat} (h : opOk fl a b p = true) :
    (p.1 = EKind.swap → fl.swap = true ∧ canReplace fl (a.getD p.2.1 []) (a.getD (p.2.1 + 1) []) = true) ∧
    (p.1 = EKind.replace → canReplace fl (a.getD p.2.1 []) (b.getD p.2.2 []) = true) := by
  obtain ⟨_, _, h3, h4⟩ := (opOk_iff fl a b p).mp h
  exact ⟨fun e => ⟨(h4 e).1, (h4 e).2.2⟩, fun e => (h3 e).2.2⟩

/-- under `spaces_insert_delete_only` no whitespace is substituted or transposed, and without
`with_swap` no swap is used -/
theorem editOperations_flags (fl : EFlags) (a b : List (List Nat)) (ops) (h : editOperations fl a b = some ops) :
    ∀ p ∈ ops,
      (p.1 = EKind.swap → fl.swap = true ∧ canReplace fl (a.getD p.2.1 []) (a.getD (p.2.1 + 1) []) = true) ∧
      (p.1 = EKind.replace → canReplace fl (a.getD p.2.1 []) (b.getD p.2.2 []) = true) := by
  obtain ⟨_, h', ht, _⟩ := editOperations_spec fl a b
  rw [h] at h'; cases h'
  exact fun p hp => opOk_flags (ht.opOk p hp)

/-- the script is an optimal one: no edit script (in the sense of `Align`) is shorter -/
theorem editOperations_minimal (fl : EFlags) (a b : List (List Nat)) (n : Nat)
    (h : Align fl a.reverse b.reverse n) :
    ∃ ops, editOperations fl a b = some ops ∧ ops.length ≤ n := by
  obtain ⟨ops, h1, h2, _⟩ := editOperations_ok fl a b
  exact ⟨ops, h1, by rw [h2]; exact distance_le_script fl a b n h⟩

/-! non-vacuity of `editOperations_ok` / `editOperations_flags`: the script of the example above is the one
the theorem speaks about, and replaying it gives `b` -/
example : applyScript [[97], [98], [99]] [[98], [97], [99]] [(.swap, 0, 0)] 0 = [[98], [97], [99]] := by decide +kernel
example : ∃ ops, editOperations { swap := false, sid := true } [[97], [32], [99]] [[98], [97], [99]] = some ops ∧
    ops.length = 2 ∧ applyScript [[97], [32], [99]] [[98], [97], [99]] ops 0 = [[98], [97], [99]] := by
  obtain ⟨ops, h1, h2, h3, _⟩ := editOperations_ok { swap := false, sid := true } [[97], [32], [99]] [[98], [97], [99]]
  exact ⟨ops, h1, by rw [h2]; decide +kernel, h3⟩
example : editOperations { swap := true, sid := true } [[97], [32]] [[32], [97]] =
    some [(.insert, 0, 0), (.delete, 1, 2)] := by decide +kernel

/-! ## the relational acceptance test `scriptAccept` for `operations()`

`operations()` may return any optimal script; the correspondence check therefore does not compare the answer with
the model's backtrace but runs `scriptAccept` (Model/Edit.lean) on it.  The theorems say: the test never
refuses the modelled code, what it accepts has exactly the property's clauses, and what it accepts is optimal. -/

/-- the script the code's backtrace produces is accepted (so the acceptance test never refuses the modelled code) -/
theorem editOperations_accepted (fl : EFlags) (a b : List (List Nat)) (ops : List (EKind × Nat × Nat))
    (h : editOperations fl a b = some ops) : scriptAccept fl a b ops = true := by
  obtain ⟨_, h', ht, hl⟩ := editOperations_spec fl a b
  rw [h] at h'; cases h'
  exact (scriptAccept_iff fl a b ops).mpr ⟨hl, (scriptSorted_iff_pairwise ops).mpr ht.sorted, ht.opOk, ht.sem⟩

/-- what acceptance means: the property's clauses for `operations(a, b)` -/
theorem scriptAccept_spec (fl : EFlags) (a b : List (List Nat)) (ops : List (EKind × Nat × Nat))
    (h : scriptAccept fl a b ops = true) :
    ops.length = editDistance fl a b ∧
    applyScript a b ops 0 = b ∧
    ops.Pairwise (fun p q => p.2.1 ≤ q.2.1 ∧ p.2.2 ≤ q.2.2) ∧
    (∀ p ∈ ops, (p.1 = EKind.swap → fl.swap = true ∧ canReplace fl (a.getD p.2.1 []) (a.getD (p.2.1 + 1) []) = true) ∧
                (p.1 = EKind.replace → canReplace fl (a.getD p.2.1 []) (b.getD p.2.2 []) = true)) := by
  obtain ⟨hlen, hs, hok, hsem⟩ := (scriptAccept_iff fl a b ops).mp h
  exact ⟨hlen, hsem, (scriptSorted_iff_pairwise ops).mp hs, fun p hp => opOk_flags (hok p hp)⟩

/-- besides the property's clauses, acceptance guarantees that every operation refers to existing characters
(the part of `opOk` that `scriptAccept_spec` does not mention) -/
theorem scriptAccept_bounds (fl : EFlags) (a b : List (List Nat)) (ops : List (EKind × Nat × Nat))
    (h : scriptAccept fl a b ops = true) :
    ∀ p ∈ ops, (p.1 = EKind.insert → p.2.2 < b.length ∧ p.2.1 ≤ a.length) ∧
               (p.1 = EKind.delete → p.2.1 < a.length) ∧
               (p.1 = EKind.replace → p.2.1 < a.length ∧ p.2.2 < b.length) ∧
               (p.1 = EKind.swap → p.2.1 + 1 < a.length) := by
  obtain ⟨_, _, hok, _⟩ := (scriptAccept_iff fl a b ops).mp h
  intro p hp
  obtain ⟨h1, h2, h3, h4⟩ := (opOk_iff fl a b p).mp (hok p hp)
  exact ⟨h1, h2, fun e => ⟨(h3 e).1, (h3 e).2.1⟩, fun e => (h4 e).2.1⟩

/-- an accepted script is optimal: no valid alignment is shorter (via `distance_le_script`) -/
theorem scriptAccept_minimal (fl : EFlags) (a b : List (List Nat)) (ops : List (EKind × Nat × Nat))
    (h : scriptAccept fl a b ops = true) (n : Nat) (hal : Align fl a.reverse b.reverse n) : ops.length ≤ n := by
  rw [(scriptAccept_spec fl a b ops h).1]
  exact distance_le_script fl a b n hal

/-- the acceptance test is not vacuous: for every pair of texts some script is accepted -/
theorem scriptAccept_exists (fl : EFlags) (a b : List (List Nat)) : ∃ ops, scriptAccept fl a b ops = true := by
  obtain ⟨ops, h, _⟩ := editOperations_ok fl a b
  exact ⟨ops, editOperations_accepted fl a b ops h⟩

/-! examples for the acceptance test ("ab" → "ba"; `[97] = a`, `[98] = b`, `[32] = space`, `[120] = x`) -/

/-- accepted: the one-swap script, with swaps enabled -/
example : scriptAccept { swap := true, sid := false } [[97], [98]] [[98], [97]] [(.swap, 0, 0)] = true := by decide +kernel
/-- … and it is the script the backtrace gives -/
example : editOperations { swap := true, sid := false } [[97], [98]] [[98], [97]] = some [(.swap, 0, 0)] := by decide +kernel
/-- accepted although it is not the backtrace's answer: without swaps there are several optimal scripts
(insert + delete, which the backtrace finds, or two replacements) and the test fixes none -/
example : editOperations { swap := false, sid := false } [[97], [98]] [[98], [97]] =
    some [(.insert, 0, 0), (.delete, 1, 2)] := by decide +kernel
example : scriptAccept { swap := false, sid := false } [[97], [98]] [[98], [97]] [(.replace, 0, 0), (.replace, 1, 1)] = true := by
  decide +kernel
/-- refused: a valid script (sorted, in range, replaying it gives `b`) that is one operation too long -/
example :
    scriptAccept { swap := true, sid := false } [[97], [98]] [[98], [97]] [(.replace, 0, 0), (.replace, 1, 1)] = false ∧
    applyScript [[97], [98]] [[98], [97]] [(.replace, 0, 0), (.replace, 1, 1)] 0 = [[98], [97]] ∧
    scriptSorted [(.replace, 0, 0), (.replace, 1, 1)] = true ∧
    [(EKind.replace, 0, 0), (EKind.replace, 1, 1)].all (opOk { swap := true, sid := false } [[97], [98]] [[98], [97]]) = true ∧
    editDistance { swap := true, sid := false } [[97], [98]] [[98], [97]] = 1 := by decide +kernel
/-- refused: a swap although `with_swap` is off -/
example : scriptAccept { swap := false, sid := false } [[97], [98], [99]] [[98], [97], [120]] [(.swap, 0, 0), (.replace, 2, 2)] = false ∧
    editDistance { swap := false, sid := false } [[97], [98], [99]] [[98], [97], [120]] = 3 := by decide +kernel
/-- refused: a script that substitutes whitespace under `spaces_insert_delete_only` (" a" → "xb"); it has the right
length (3, the distance under `sid`), is sorted and replays to `b` — only `opOk` of the replacement fails -/
example :
    scriptAccept { swap := false, sid := true } [[32], [97]] [[120], [98]] [(.replace, 0, 0), (.delete, 1, 1), (.insert, 2, 1)] = false ∧
    editDistance { swap := false, sid := true } [[32], [97]] [[120], [98]] = 3 ∧
    scriptSorted [(.replace, 0, 0), (.delete, 1, 1), (.insert, 2, 1)] = true ∧
    applyScript [[32], [97]] [[120], [98]] [(.replace, 0, 0), (.delete, 1, 1), (.insert, 2, 1)] 0 = [[120], [98]] ∧
    opOk { swap := false, sid := true } [[32], [97]] [[120], [98]] (.replace, 0, 0) = false := by decide +kernel
/-- the two-replacement script for the same texts is accepted without `sid` and refused with it -/
example : scriptAccept { swap := false, sid := false } [[32], [97]] [[120], [98]] [(.replace, 0, 0), (.replace, 1, 1)] = true ∧
    scriptAccept { swap := false, sid := true } [[32], [97]] [[120], [98]] [(.replace, 0, 0), (.replace, 1, 1)] = false := by decide +kernel
/-- refused: an operation that refers to a character that does not exist (`delete` at `i = |a|`) -/
example : opOk { swap := true, sid := false } [[97]] [] (.delete, 1, 0) = false := by decide +kernel

end Tu.C12

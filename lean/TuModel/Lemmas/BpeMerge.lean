/-
  BPE: the refinement invariant `Inv` between the heap-driven loop (`mergeLoop`) and the token list
  `live st.bytes` of the specification, its preservation by `mergeStep`, the loop, the initial
  state, the final read-out, and the result `mergeWordImpl_run`.  The argument is told at the head
  of Props/C03.lean.
-/
import TuModel.Lemmas.BpeCells
import TuModel.Lemmas.BpeWf
namespace Tu

/-- `b` is the byte string of token id `a` -/
def IdOK (t : MTable) (a : Nat) (b : List Nat) : Prop :=
  (a < 256 ∧ b = [a]) ∨ (256 ≤ a ∧ 2 ≤ b.length ∧ tlookup t b = some (a - 256))

theorem IdOK.ne_nil {t : MTable} {a : Nat} {b : List Nat} (h : IdOK t a b) : b ≠ [] := by
  rcases h with ⟨_, rfl⟩ | ⟨_, h2, _⟩
  · simp
  · intro h0; subst h0; simp at h2

theorem IdOK.inj {t : MTable} (hwf : wfTable t = true) {a : Nat} {b b' : List Nat}
    (h : IdOK t a b) (h' : IdOK t a b') : b = b' := by
  rcases h with ⟨h1, rfl⟩ | ⟨h1, _, h3⟩ <;> rcases h' with ⟨h1', rfl⟩ | ⟨h1', _, h3'⟩
  · rfl
  · omega
  · omega
  · exact tlookup_inj hwf h3 h3'

theorem IdOK.tokId_eq {t : MTable} {a : Nat} {b : List Nat} (h : IdOK t a b) : Tu.tokId t b = some a := by
  rcases h with ⟨_, rfl⟩ | ⟨h1, h2, h3⟩
  · rfl
  · unfold Tu.tokId
    split
    · simp at h2
    · rw [h3]; simp; omega

theorem IdOK.decode {t : MTable} (hwf : wfTable t = true) {a : Nat} {b : List Nat} (h : IdOK t a b) :
    (if a < 256 then [a] else (tbytes t (a - 256)).getD []) = b ∧ a < 256 + t.length := by
  rcases h with ⟨h1, rfl⟩ | ⟨h1, _, h3⟩
  · exact ⟨if_pos h1, by omega⟩
  · rw [if_neg (by omega), tbytes_of_tlookup hwf h3]
    exact ⟨rfl, by have := tlookup_lt hwf h3; omega⟩

theorem IdOK.merged {t : MTable} {x y : List Nat} {m : Nat} (hx : x ≠ []) (hy : y ≠ [])
    (h : tlookup t (x ++ y) = some m) : IdOK t (256 + m) (x ++ y) := by
  have : 0 < x.length := List.length_pos_iff.mpr hx
  have : 0 < y.length := List.length_pos_iff.mpr hy
  refine Or.inr ⟨by omega, by simp; omega, ?_⟩
  rw [h]; simp

def CellOK (t : MTable) (bytes : List (List Nat)) (ids : List (Option Nat)) : Prop :=
  ∀ k, (bytes.getD k [] = [] ∧ ids.getD k none = none) ∨
    ∃ a, ids.getD k none = some a ∧ IdOK t a (bytes.getD k [])

/-- a heap entry: two cells with only dead cells in between, recorded ids, their byte strings -/
def EntryOK (t : MTable) (bytes : List (List Nat)) (e : HEntry) : Prop :=
  e.fst < e.snd ∧ e.snd < bytes.length ∧ (∀ k, e.fst < k → k < e.snd → bytes.getD k [] = []) ∧
  ∃ a b x y, e.fid = some a ∧ e.sid = some b ∧ IdOK t a x ∧ IdOK t b y ∧ e.merged = x ++ y ∧
    tlookup t e.merged = some e.mid

structure Inv (t : MTable) (st : MState) : Prop where
  len : st.ids.length = st.bytes.length
  cell : CellOK t st.bytes st.ids
  entry : ∀ e ∈ st.heap, EntryOK t st.bytes e
  complete : ∀ i j m, Adj st.bytes i j → tlookup t (st.bytes.getD i [] ++ st.bytes.getD j []) = some m →
    ∃ e ∈ st.heap, e.fst = i ∧ e.snd = j ∧ e.fid = st.ids.getD i none ∧ e.sid = st.ids.getD j none

theorem CellOK.live_some {t : MTable} {bytes : List (List Nat)} {ids : List (Option Nat)}
    (h : CellOK t bytes ids) (k : Nat) (hk : bytes.getD k [] ≠ []) :
    ∃ a, ids.getD k none = some a ∧ IdOK t a (bytes.getD k []) := by
  rcases h k with ⟨h1, _⟩ | h1
  · exact absurd h1 hk
  · exact h1

theorem CellOK.of_some {t : MTable} {bytes : List (List Nat)} {ids : List (Option Nat)}
    (h : CellOK t bytes ids) (k a : Nat) (hk : ids.getD k none = some a) : IdOK t a (bytes.getD k []) := by
  rcases h k with ⟨_, h2⟩ | ⟨a', h1, h2⟩
  · rw [hk] at h2; simp at h2
  · rw [hk] at h1; simp only [Option.some.injEq] at h1; subst h1; exact h2

/-- the entry's recorded ids are the current ids of its cells (the test of `mergeStep`) -/
def Fresh (ids : List (Option Nat)) (e : HEntry) : Prop :=
  ids.getD e.fst none = e.fid ∧ ids.getD e.snd none = e.sid

/-- a fresh entry denotes two adjacent live cells and their concatenation: an invalid entry is stale -/
theorem valid_entry {t : MTable} (hwf : wfTable t = true) {bytes : List (List Nat)} {ids : List (Option Nat)}
    (hc : CellOK t bytes ids) {e : HEntry} (he : EntryOK t bytes e) (hf : Fresh ids e) :
    Adj bytes e.fst e.snd ∧ e.merged = bytes.getD e.fst [] ++ bytes.getD e.snd [] ∧
      tlookup t e.merged = some e.mid := by
  obtain ⟨hlt, _, hmid, a, b, x, y, hfa, hsb, hax, hby, hm, hl⟩ := he
  have hx := hc.of_some e.fst a (by rw [hf.1, hfa])
  have hy := hc.of_some e.snd b (by rw [hf.2, hsb])
  have ex := IdOK.inj hwf hax hx
  have ey := IdOK.inj hwf hby hy
  subst ex; subst ey
  exact ⟨⟨hlt, hx.ne_nil, hy.ne_nil, hmid⟩, hm, hl⟩

/-- the entry `mergeStep` pushes for two cells -/
def mkEntry (bytes : List (List Nat)) (ids : List (Option Nat)) (p q id : Nat) : HEntry :=
  { mid := id, fst := p, snd := q, fid := ids.getD p none, sid := ids.getD q none,
    merged := bytes.getD p [] ++ bytes.getD q [] }

theorem EntryOK.mono {t : MTable} {bytes bytes' : List (List Nat)} {e : HEntry}
    (hlen : bytes'.length = bytes.length) (hd : ∀ k, bytes.getD k [] = [] → bytes'.getD k [] = [])
    (h : EntryOK t bytes e) : EntryOK t bytes' e := by
  obtain ⟨h1, h2, h3, h4⟩ := h
  exact ⟨h1, by omega, fun k hk1 hk2 => hd k (h3 k hk1 hk2), h4⟩

theorem mkEntry_ok {t : MTable} {bytes : List (List Nat)} {ids : List (Option Nat)}
    (hc : CellOK t bytes ids) {p q id : Nat} (h : Adj bytes p q)
    (hl : tlookup t (bytes.getD p [] ++ bytes.getD q []) = some id) :
    EntryOK t bytes (mkEntry bytes ids p q id) := by
  obtain ⟨a, ha1, ha2⟩ := hc.live_some p h.2.1
  obtain ⟨b, hb1, hb2⟩ := hc.live_some q h.2.2.1
  exact ⟨h.1, lt_length_of_getD_ne h.2.2.1, h.2.2.2, a, b, _, _, ha1, hb1, ha2, hb2, rfl, hl⟩

theorem Inv.entry_of_mergeable {t : MTable} (hwf : wfTable t = true) {st : MState} (hinv : Inv t st)
    {k m : Nat} (h : Mergeable t (live st.bytes) k m) :
    ∃ e ∈ st.heap, Fresh st.ids e ∧ e.mid = m ∧ rank st.bytes e.fst = k := by
  obtain ⟨i, j, hadj, hk, hl⟩ := mergeable_adj h
  obtain ⟨e, he, rfl, rfl, f3, f4⟩ := hinv.complete i j m hadj hl
  have hf : Fresh st.ids e := ⟨f3.symm, f4.symm⟩
  obtain ⟨_, hm, hlk⟩ := valid_entry hwf hinv.cell (hinv.entry e he) hf
  rw [hm, hl] at hlk
  exact ⟨e, he, hf, (Option.some.inj hlk).symm, hk⟩

def mergedBytes (bytes : List (List Nat)) (e : HEntry) : List (List Nat) :=
  (bytes.set e.fst e.merged).set e.snd []

def mergedIds (ids : List (Option Nat)) (e : HEntry) : List (Option Nat) :=
  (ids.set e.fst (some (256 + e.mid))).set e.snd none

/-- the entry, if any, that `mergeStep` pushes for a neighbour `o` of the merged cell -/
def pushOne (t : MTable) (o : Option Nat) (m : Nat → List Nat) (f : Nat → Nat → HEntry) : List HEntry :=
  match o with
  | some q => match tlookup t (m q) with
    | some id => [f q id]
    | none => []
  | none => []

theorem mem_pushOne {t : MTable} {o : Option Nat} {m : Nat → List Nat} {f : Nat → Nat → HEntry} {x : HEntry} :
    x ∈ pushOne t o m f ↔ ∃ q id, o = some q ∧ tlookup t (m q) = some id ∧ x = f q id := by
  unfold pushOne
  cases o with
  | none => simp
  | some q => cases h : tlookup t (m q) <;> simp [h]

theorem pushOne_length (t : MTable) (o : Option Nat) (m : Nat → List Nat) (f : Nat → Nat → HEntry) :
    (pushOne t o m f).length ≤ 1 := by
  unfold pushOne
  split
  · split <;> simp
  · simp

/-- the entries pushed after a merge: with the previous and with the next live cell -/
def pushed (t : MTable) (bytes : List (List Nat)) (ids : List (Option Nat)) (e : HEntry) : List HEntry :=
  pushOne t (prevLive bytes e.fst) (fun p => bytes.getD p [] ++ e.merged)
    (fun p id => { mid := id, fst := p, snd := e.fst, fid := ids.getD p none, sid := ids.getD e.fst none,
                   merged := bytes.getD p [] ++ e.merged }) ++
  pushOne t (nextLive bytes e.snd) (fun n => e.merged ++ bytes.getD n [])
    (fun n id => { mid := id, fst := e.fst, snd := n, fid := ids.getD e.fst none, sid := ids.getD n none,
                   merged := e.merged ++ bytes.getD n [] })

theorem mergeStep_stale (t : MTable) (st : MState) (e : HEntry) (h : ¬ Fresh st.ids e) : mergeStep t st e = st := by
  unfold mergeStep
  rw [if_pos]
  simp only [Bool.or_eq_true, bne_iff_ne]
  exact Classical.not_and_iff_not_or_not.mp h

theorem mergeStep_fresh (t : MTable) (st : MState) (e : HEntry) (h : Fresh st.ids e) :
    mergeStep t st e = {
      bytes := mergedBytes st.bytes e, ids := mergedIds st.ids e,
      heap := st.heap ++ pushed t (mergedBytes st.bytes e) (mergedIds st.ids e) e } := by
  unfold mergeStep
  rw [if_neg (by rw [h.1, h.2]; simp), pushed, ← List.append_assoc]
  rfl

theorem pushed_length (t : MTable) (bytes : List (List Nat)) (ids : List (Option Nat)) (e : HEntry) :
    (pushed t bytes ids e).length ≤ 2 := by
  rw [pushed, List.length_append]
  exact Nat.add_le_add (pushOne_length ..) (pushOne_length ..)

/-- `bytes` is the array after the merge: cell `e.fst` holds `e.merged`, cell `e.snd` is dead -/
theorem mem_pushed {t : MTable} {bytes : List (List Nat)} {ids : List (Option Nat)} {e x : HEntry}
    (hi : bytes.getD e.fst [] = e.merged) (hj : bytes.getD e.snd [] = []) (hne : e.merged ≠ []) (hlt : e.fst < e.snd)
    (hg : ∀ k, e.fst < k → k < e.snd → bytes.getD k [] = []) :
    x ∈ pushed t bytes ids e ↔
      (∃ p id, Adj bytes p e.fst ∧ tlookup t (bytes.getD p [] ++ bytes.getD e.fst []) = some id ∧
        x = mkEntry bytes ids p e.fst id) ∨
      (∃ n id, Adj bytes e.fst n ∧ tlookup t (bytes.getD e.fst [] ++ bytes.getD n []) = some id ∧
        x = mkEntry bytes ids e.fst n id) := by
  have hl : bytes.getD e.fst [] ≠ [] := hi ▸ hne
  unfold pushed mkEntry
  rw [List.mem_append, mem_pushOne, mem_pushOne, hi]
  exact or_congr (exists_congr fun p => exists_congr fun _ => and_congr_left' (prevLive_eq_some hl p))
    (exists_congr fun n => exists_congr fun _ => and_congr_left' (nextLive_eq_some hl hj hlt hg n))

theorem Inv_stale {t : MTable} {st : MState} {e : HEntry} (hinv : Inv t st) (hs : ¬ Fresh st.ids e) :
    Inv t { st with heap := st.heap.erase e } := by
  refine ⟨hinv.len, hinv.cell, fun x hx => hinv.entry x (List.mem_of_mem_erase hx), ?_⟩
  intro i j m hadj hl
  obtain ⟨x, hx, h1, h2, h3, h4⟩ := hinv.complete i j m hadj hl
  refine ⟨x, ?_, h1, h2, h3, h4⟩
  have hne : x ≠ e := by
    intro hxe; subst hxe
    exact hs ⟨by rw [h1, h3], by rw [h2, h4]⟩
  exact (List.mem_erase_of_ne hne).mpr hx

theorem Inv_merge {t : MTable} (hwf : wfTable t = true) {st : MState} {e : HEntry} (hinv : Inv t st)
    (he : e ∈ st.heap) (hf : Fresh st.ids e) :
    Inv t {
      bytes := mergedBytes st.bytes e, ids := mergedIds st.ids e,
      heap := st.heap.erase e ++ pushed t (mergedBytes st.bytes e) (mergedIds st.ids e) e } := by
  obtain ⟨⟨hij, hi, hj, hmid⟩, hm, hlk⟩ := valid_entry hwf hinv.cell (hinv.entry e he) hf
  have hjl : e.snd < st.bytes.length := lt_length_of_getD_ne hj
  have hlen := hinv.len
  have hB : ∀ k, (mergedBytes st.bytes e).getD k [] =
      if k = e.snd then [] else if k = e.fst then e.merged else st.bytes.getD k [] :=
    fun k => getD_set2 _ _ _ _ _ _ _ (by omega) hjl
  have hI : ∀ k, (mergedIds st.ids e).getD k none =
      if k = e.snd then none else if k = e.fst then some (256 + e.mid) else st.ids.getD k none :=
    fun k => getD_set2 _ _ _ _ _ _ _ (by omega) (by omega)
  have hne : e.fst ≠ e.snd := by omega
  have hBi : (mergedBytes st.bytes e).getD e.fst [] = e.merged := by rw [hB, if_neg hne, if_pos rfl]
  have hBj : (mergedBytes st.bytes e).getD e.snd [] = [] := by rw [hB, if_pos rfl]
  have hBo : ∀ k, k ≠ e.fst → k ≠ e.snd → (mergedBytes st.bytes e).getD k [] = st.bytes.getD k [] :=
    fun k k1 k2 => by rw [hB, if_neg k2, if_neg k1]
  have hIo : ∀ k, k ≠ e.fst → k ≠ e.snd → (mergedIds st.ids e).getD k none = st.ids.getD k none :=
    fun k k1 k2 => by rw [hI, if_neg k2, if_neg k1]
  have hmne : e.merged ≠ [] := by
    rw [hm]; exact fun h0 => hi (List.append_eq_nil_iff.mp h0).1
  have hdead : ∀ k, st.bytes.getD k [] = [] → (mergedBytes st.bytes e).getD k [] = [] := by
    intro k hk
    by_cases k1 : k = e.snd
    · rw [k1]; exact hBj
    · rw [hBo k (fun h => hi (h ▸ hk)) k1]; exact hk
  have hgap : ∀ k, e.fst < k → k < e.snd → (mergedBytes st.bytes e).getD k [] = [] := fun k k1 k2 =>
    hdead k (hmid k k1 k2)
  have hcell : CellOK t (mergedBytes st.bytes e) (mergedIds st.ids e) := by
    intro k
    by_cases k1 : k = e.snd
    · rw [k1, hBj, hI, if_pos rfl]; exact Or.inl ⟨rfl, rfl⟩
    · by_cases k2 : k = e.fst
      · rw [k2, hBi, hI, if_neg hne, if_pos rfl, hm]
        exact Or.inr ⟨_, rfl, IdOK.merged hi hj (hm ▸ hlk)⟩
      · rw [hBo k k2 k1, hIo k k2 k1]
        exact hinv.cell k
  have hpush := fun x => @mem_pushed t _ (mergedIds st.ids e) e x hBi hBj hmne hij hgap
  have hBlen : (mergedBytes st.bytes e).length = st.bytes.length := by
    rw [mergedBytes, List.length_set, List.length_set]
  refine ⟨by rw [hBlen, mergedIds, List.length_set, List.length_set, hlen], hcell, fun x hx => ?_,
    fun a b m hadj' hl' => ?_⟩
  · rcases List.mem_append.mp hx with hx | hx
    · exact (hinv.entry x (List.mem_of_mem_erase hx)).mono hBlen hdead
    · rcases (hpush _).mp hx with ⟨p, id, h1, h2, rfl⟩ | ⟨n, id, h1, h2, rfl⟩
      · exact mkEntry_ok hcell h1 h2
      · exact mkEntry_ok hcell h1 h2
  · have haj : a ≠ e.snd := fun h => hadj'.2.1 (h ▸ hBj)
    have hbj : b ≠ e.snd := fun h => hadj'.2.2.1 (h ▸ hBj)
    by_cases hbi : b = e.fst
    · subst hbi
      exact ⟨_, List.mem_append_right _ ((hpush _).mpr (Or.inl ⟨a, m, hadj', hl', rfl⟩)),
        rfl, rfl, rfl, rfl⟩
    by_cases hai : a = e.fst
    · subst hai
      exact ⟨_, List.mem_append_right _ ((hpush _).mpr (Or.inr ⟨b, m, hadj', hl', rfl⟩)),
        rfl, rfl, rfl, rfl⟩
    -- an untouched pair: it was adjacent before, since neither `e.fst` nor `e.snd` lies between
    obtain ⟨hab, ha, hb, hmid'⟩ := hadj'
    rw [hBo a hai haj] at ha hl'
    rw [hBo b hbi hbj] at hb hl'
    have hadj0 : Adj st.bytes a b := by
      refine ⟨hab, ha, hb, fun k k1 k2 => ?_⟩
      have hk := hmid' k k1 k2
      have kf : k ≠ e.fst := fun h => hmne (by rw [← hBi, ← h]; exact hk)
      by_cases ks : k = e.snd
      · exfalso
        subst ks
        by_cases c : a < e.fst
        · exact hmne (hBi ▸ hmid' e.fst c (by omega))
        · exact ha (hmid a (by omega) k1)
      · rw [hBo k kf ks] at hk; exact hk
    obtain ⟨x, hx, x1, x2, x3, x4⟩ := hinv.complete a b m hadj0 hl'
    refine ⟨x, List.mem_append_left _ ((List.mem_erase_of_ne ?_).mpr hx), x1, x2, ?_, ?_⟩
    · intro hxe; rw [hxe] at x1; exact hai x1.symm
    · rw [hIo a hai haj]; exact x3
    · rw [hIo b hbi hbj]; exact x4

theorem pop_fresh_best {t : MTable} (hwf : wfTable t = true) {st : MState} {e : HEntry} (hinv : Inv t st)
    (he : e ∈ st.heap)
    (hmin : ∀ x ∈ st.heap, e.mid < x.mid ∨ (e.mid = x.mid ∧ e.fst ≤ x.fst)) (hf : Fresh st.ids e) :
    bestPair t (live st.bytes) 0 = some (e.mid, rank st.bytes e.fst) ∧
      Mergeable t (live st.bytes) (rank st.bytes e.fst) e.mid ∧
      live (mergedBytes st.bytes e) = mergeAt (live st.bytes) (rank st.bytes e.fst) := by
  obtain ⟨hadj, hm, hlk⟩ := valid_entry hwf hinv.cell (hinv.entry e he) hf
  have hme := adj_mergeable hadj (hm ▸ hlk)
  refine ⟨(bestPair_eq_some_iff ..).mpr ⟨hme, fun k' m' h' => ?_⟩, hme, ?_⟩
  · -- the position has a fresh entry in the heap; the popped one is not above it in `(mid, fst)`, and
    -- `rank` is monotone in the cell index
    obtain ⟨e', he', _, rfl, rfl⟩ := hinv.entry_of_mergeable hwf h'
    have := rank_mono st.bytes (i := e.fst) (i' := e'.fst)
    have := hmin e' he'
    omega
  · rw [mergedBytes, hm]; exact live_merge hadj

theorem heap_empty_terminal {t : MTable} (hwf : wfTable t = true) {st : MState} (hinv : Inv t st)
    (hh : st.heap = []) : bestPair t (live st.bytes) 0 = none :=
  (bestPair_eq_none_iff ..).mpr fun k m h => by
    obtain ⟨e, he, _⟩ := hinv.entry_of_mergeable hwf h
    rw [hh] at he; cases he

/-- `heap.length + 2 * #live` bounds the iterations: a merge removes one live cell and pushes at most
two entries, a stale pop only removes an entry -/
theorem mergeLoop_spec {t : MTable} (hwf : wfTable t = true) : ∀ (fuel : Nat) (st : MState), Inv t st →
    st.heap.length + 2 * (live st.bytes).length ≤ fuel →
    ∃ st', mergeLoop t fuel st = some st' ∧ Inv t st' ∧
      ∀ F, (live st.bytes).length ≤ F + 1 → live st'.bytes = specLoop t F (live st.bytes)
  | 0, st, hinv, hf => by
    have hh : st.heap = [] := List.eq_nil_of_length_eq_zero (by omega)
    refine ⟨st, by simp [mergeLoop, hh], hinv, fun F _ => ?_⟩
    rw [specLoop_of_none t F _ (heap_empty_terminal hwf hinv hh)]
  | fuel + 1, st, hinv, hf => by
    have hpop := heapPop_spec st.heap
    rw [mergeLoop]
    cases hp : heapPop st.heap with
    | none =>
      rw [hp] at hpop
      refine ⟨st, rfl, hinv, fun F _ => ?_⟩
      rw [specLoop_of_none t F _ (heap_empty_terminal hwf hinv hpop)]
    | some r =>
      obtain ⟨e, h⟩ := r
      rw [hp] at hpop
      obtain ⟨he, rfl, hmin⟩ := hpop
      have hel : (st.heap.erase e).length + 1 = st.heap.length := by
        have := List.length_pos_of_mem he
        rw [List.length_erase_of_mem he]; omega
      dsimp only
      by_cases hv : Fresh st.ids e
      · rw [mergeStep_fresh t { st with heap := st.heap.erase e } e hv]
        obtain ⟨hb, hk, hlive⟩ := pop_fresh_best hwf hinv he hmin hv
        have hk := hk.1
        have hlen := mergeAt_length _ _ hk
        have := pushed_length t (mergedBytes st.bytes e) (mergedIds st.ids e) e
        obtain ⟨st', r1, r2, r3⟩ := mergeLoop_spec hwf fuel _ (Inv_merge hwf hinv he hv) (by
          simp only [List.length_append]
          rw [hlive]
          omega)
        refine ⟨st', r1, r2, fun F hF => ?_⟩
        cases F with
        | zero => omega
        | succ F =>
          rw [specLoop_of_some t F _ _ _ hb, ← hlive]
          exact r3 F (by rw [hlive]; omega)
      · rw [mergeStep_stale t { st with heap := st.heap.erase e } e hv]
        exact mergeLoop_spec hwf fuel _ (Inv_stale hinv hv) (by
          show (st.heap.erase e).length + 2 * (live st.bytes).length ≤ fuel
          omega)

theorem live_map_single (w : List Nat) : live (w.map (fun b => [b])) = w.map (fun b => [b]) :=
  List.filter_eq_self.mpr fun b hb => by
    obtain ⟨_, _, rfl⟩ := List.mem_map.mp hb; rfl

theorem mem_initHeap {t : MTable} {w : List Nat} {e : HEntry} :
    e ∈ initHeap t w ↔ ∃ i id, i + 1 < w.length ∧ tlookup t [w.getD i 0, w.getD (i + 1) 0] = some id ∧
      e = { mid := id, fst := i, snd := i + 1, fid := some (w.getD i 0), sid := some (w.getD (i + 1) 0),
            merged := [w.getD i 0, w.getD (i + 1) 0] } := by
  unfold initHeap
  simp only [List.mem_filterMap, List.mem_range, Option.map_eq_some_iff]
  exact ⟨fun ⟨i, hi, id, h1, h2⟩ => ⟨i, id, by omega, h1, h2.symm⟩,
    fun ⟨i, id, hi, h1, h2⟩ => ⟨i, by omega, id, h1, h2.symm⟩⟩

theorem initHeap_length (t : MTable) (w : List Nat) : (initHeap t w).length ≤ w.length - 1 := by
  unfold initHeap
  exact Nat.le_trans (List.length_filterMap_le ..) (Nat.le_of_eq List.length_range)

theorem Inv_init (t : MTable) (w : List Nat) (hw : ∀ b ∈ w, b < 256) :
    Inv t { bytes := w.map (fun b => [b]), ids := w.map some, heap := initHeap t w } := by
  have hB : ∀ k, k < w.length → (w.map (fun b => [b])).getD k [] = [w.getD k 0] := fun k hk =>
    getD_map _ w k hk 0 []
  have hI : ∀ k, k < w.length → (w.map some).getD k none = some (w.getD k 0) := fun k hk =>
    getD_map _ w k hk 0 none
  have hok : ∀ k, k < w.length → IdOK t (w.getD k 0) [w.getD k 0] := fun k hk =>
    Or.inl ⟨hw _ (getD_mem w k 0 hk), rfl⟩
  have hcell : CellOK t (w.map (fun b => [b])) (w.map some) := by
    intro k
    by_cases h : k < w.length
    · rw [hB k h, hI k h]
      exact Or.inr ⟨_, rfl, hok k h⟩
    · rw [getD_of_le _ _ _ (by rw [List.length_map]; omega), getD_of_le _ _ _ (by rw [List.length_map]; omega)]
      exact Or.inl ⟨rfl, rfl⟩
  refine ⟨by simp, hcell, ?_, ?_⟩
  · intro e he
    obtain ⟨i, id, hi, hl, rfl⟩ := mem_initHeap.mp he
    exact ⟨Nat.lt_succ_self i, by rw [List.length_map]; exact hi, fun k k1 k2 => by dsimp only at k1 k2; omega,
      _, _, _, _, rfl, rfl, hok i (by omega), hok _ hi, rfl, hl⟩
  · intro i j m ⟨hij, hi, hj, hmid⟩ hl
    have hjl : j < w.length := by
      have := lt_length_of_getD_ne hj
      rwa [List.length_map] at this
    -- all cells are live, so adjacent cells are neighbours
    have hji : j = i + 1 := by
      false_or_by_contra
      have := hmid (i + 1) (by omega) (by omega)
      rw [hB _ (by omega)] at this
      cases this
    subst hji
    rw [hB i (by omega), hB _ hjl] at hl
    exact ⟨_, mem_initHeap.mpr ⟨i, m, hjl, hl, rfl⟩, rfl, rfl, (hI i (by omega)).symm, (hI _ hjl).symm⟩

theorem readout {t : MTable} (hwf : wfTable t = true) : ∀ (bytes : List (List Nat)) (ids : List (Option Nat)),
    ids.length = bytes.length → CellOK t bytes ids →
    (live bytes).mapM (tokId t) = some (ids.filterMap id) ∧
      (ids.filterMap id).flatMap (fun i => if i < 256 then [i] else (tbytes t (i - 256)).getD []) =
        (live bytes).flatten ∧
      ∀ i ∈ ids.filterMap id, i < 256 + t.length
  | [], [], _, _ => ⟨rfl, rfl, fun _ h => nomatch h⟩
  | [], _ :: _, h, _ => by simp at h
  | _ :: _, [], h, _ => by simp at h
  | b :: bytes, i :: ids, hlen, hc => by
    obtain ⟨ih1, ih2, ih3⟩ := readout hwf bytes ids (Nat.succ.inj hlen) fun k => by
      have := hc (k + 1)
      rwa [List.getD_cons_succ, List.getD_cons_succ] at this
    have h0 := hc 0
    rw [List.getD_cons_zero, List.getD_cons_zero] at h0
    rcases h0 with ⟨rfl, rfl⟩ | ⟨a, rfl, hb⟩
    · rw [live_cons_nil, List.filterMap_cons]
      exact ⟨ih1, ih2, ih3⟩
    · obtain ⟨d1, d2⟩ := hb.decode hwf
      rw [live_cons_ne _ _ hb.ne_nil, List.filterMap_cons]
      refine ⟨?_, ?_, ?_⟩
      · rw [List.mapM_cons, hb.tokId_eq, ih1]; rfl
      · rw [id, List.flatMap_cons, List.flatten_cons, d1, ih2]
      · intro i hi
        rcases List.mem_cons.mp hi with rfl | hi
        · exact d2
        · exact ih3 i hi

/-- the loop as coded ends, with the ids of the specification's tokens; these decode to the bytes
of the word and lie in the vocabulary -/
theorem mergeWordImpl_run (t : MTable) (w : List Nat) (hwf : wfTable t = true) (hw : ∀ b ∈ w, b < 256) :
    ∃ ids, mergeWordImpl t w = some ids ∧ mergeWordSpec t w = some ids ∧
      ids.flatMap (fun i => if i < 256 then [i] else (tbytes t (i - 256)).getD []) = w ∧
      ∀ i ∈ ids, i < 256 + t.length := by
  have hlive := live_map_single w
  obtain ⟨st', r1, r2, r3⟩ := mergeLoop_spec hwf (3 * w.length + 3) _ (Inv_init t w hw) (by
    have := initHeap_length t w
    show (initHeap t w).length + 2 * (live (w.map (fun b => [b]))).length ≤ 3 * w.length + 3
    rw [hlive, List.length_map]
    omega)
  have h4 : live st'.bytes = specLoop t w.length (w.map (fun b => [b])) := by
    have := r3 w.length
    dsimp only at this
    rw [hlive, List.length_map] at this
    exact this (Nat.le_succ _)
  obtain ⟨o1, o2, o3⟩ := readout hwf _ _ r2.len r2.cell
  refine ⟨_, ?_, ?_, ?_, o3⟩
  · unfold mergeWordImpl
    dsimp only
    rw [r1]; rfl
  · rw [mergeWordSpec, ← h4]; exact o1
  · rw [o2, h4, specLoop_flatten, ← List.flatMap_def, List.flatMap_singleton']

end Tu

/-
  C09 — abandoning never wedges the loader: bounded lookahead, prompt stop.
  Models: `Tu.pstep` (threaded `Pipe`) and `Tu.bstep` (`Buffered` producer), Model/Pipe.lean.
-/
import TuModel.Lemmas.PipeProg
import TuModel.Lemmas.BufL
namespace Tu.C09
open Tu
set_option linter.unusedVariables false

/-! ### any upstream (it need not be fused) -/

/-- while the consumer is there, workers pull at most `2 * W` items ahead of what was consumed -/
theorem pipe_lookahead_gen (W : Nat) (src : Nat → Bool) (hW : 1 ≤ W) (s : PState) (h : PReach W src s)
    (hd : s.dropped = false) : s.next ≤ s.recvd.length + 2 * W := by
  have hi := inv_reach h
  have g := hi.counters
  cases hi.hW
  have hbusy := wsum_le (f := PC.busy) (fun p => by cases p <;> simp [PC.busy]) s.pc s.W
  have hL := congrArg List.length (g.fifo hd)
  rw [List.length_append, List.length_range] at hL
  have := g.count
  have := g.chan_le
  omega

/-- after the consumer dropped the iterator no worker takes more than one further item:
`next + takesLeft` never grows, and `takesLeft ≤ W` -/
theorem pipe_drop_stops_gen (W : Nat) (src : Nat → Bool) (hW : 1 ≤ W) (s s' : PState) (a : PAction)
    (h : PReach W src s) (hd : s.dropped = true) (hs : pstep s a = some s') :
    s'.dropped = true ∧ s'.next + takesLeft s' ≤ s.next + takesLeft s ∧ takesLeft s ≤ W := by
  obtain ⟨h1, h2⟩ := drop_step hd hs
  have := takesLeft_le s
  rw [(inv_reach h).hW] at this
  exact ⟨h1, h2, this⟩

/-- after `drop`, while some worker has not exited, a measure-decreasing step of a *worker* is enabled
(the consumer's actions are all disabled after `drop`); the measure is the one of C05, for an upstream that
is exhausted from its `N`-th call on -/
theorem pipe_drop_exits_worker_gen (W : Nat) (src : Nat → Bool) (hW : 1 ≤ W) (N : Nat)
    (hN : ∀ k, N ≤ k → src k = false) (s : PState) (h : PReach W src s)
    (hd : s.dropped = true) (hne : allExited s = false) :
    ∃ a s', a ≠ PAction.drop ∧ a ≠ PAction.recv ∧ a ≠ PAction.close ∧
      pstep s a = some s' ∧ pmeasure N s' < pmeasure N s := by
  have hi := inv_reach h
  exact worker_progress hi (by rw [hi.hsrc]; exact hN)
    (fun hall => by rw [(allExited_iff s).mpr hall] at hne; cases hne) (Or.inl hd)

/-- … and every worker eventually exits: while some worker has not exited, a worker step that
decreases the measure is enabled (nothing can block any more: sends fail immediately) -/
theorem pipe_drop_exits_gen (W : Nat) (src : Nat → Bool) (hW : 1 ≤ W) (N : Nat)
    (hN : ∀ k, N ≤ k → src k = false) (s : PState) (h : PReach W src s) (hd : s.dropped = true)
    (hne : allExited s = false) : ∃ a s', pstep s a = some s' ∧ pmeasure N s' < pmeasure N s := by
  obtain ⟨a, s', _, _, _, hs, hm⟩ := pipe_drop_exits_worker_gen W src hW N hN s h hd hne
  exact ⟨a, s', hs, hm⟩

/-! ### fused upstream of `n` items -/

/-- while the consumer is there, workers pull at most `2 * W` items ahead of what was consumed -/
theorem pipe_lookahead (W n : Nat) (hW : 1 ≤ W) (s : PState) (h : PReach W (fused n) s) (hd : s.dropped = false) :
    s.next ≤ s.recvd.length + 2 * W :=
  pipe_lookahead_gen W (fused n) hW s h hd

/-- after the consumer dropped the iterator no worker takes more than one further item:
`next + takesLeft` never grows, and `takesLeft ≤ W` -/
theorem pipe_drop_stops (W n : Nat) (hW : 1 ≤ W) (s s' : PState) (a : PAction) (h : PReach W (fused n) s)
    (hd : s.dropped = true) (hs : pstep s a = some s') :
    s'.dropped = true ∧ s'.next + takesLeft s' ≤ s.next + takesLeft s ∧ takesLeft s ≤ W :=
  pipe_drop_stops_gen W (fused n) hW s s' a h hd hs

/-- after `drop`, while some worker has not exited, a measure-decreasing step of a *worker* is enabled
(the consumer's actions are all disabled after `drop`) -/
theorem pipe_drop_exits_worker (W n : Nat) (hW : 1 ≤ W) (s : PState) (h : PReach W (fused n) s)
    (hd : s.dropped = true) (hne : allExited s = false) :
    ∃ a s', a ≠ PAction.drop ∧ a ≠ PAction.recv ∧ a ≠ PAction.close ∧
      pstep s a = some s' ∧ pmeasure n s' < pmeasure n s :=
  pipe_drop_exits_worker_gen W (fused n) hW n (fun _ hk => fused_false hk) s h hd hne

/-- … and every worker eventually exits: while some worker has not exited, a worker step that
decreases the measure is enabled (nothing can block any more: sends fail immediately) -/
theorem pipe_drop_exits (W n : Nat) (hW : 1 ≤ W) (s : PState) (h : PReach W (fused n) s) (hd : s.dropped = true)
    (hne : allExited s = false) : ∃ a s', pstep s a = some s' ∧ pmeasure n s' < pmeasure n s :=
  pipe_drop_exits_gen W (fused n) hW n (fun _ hk => fused_false hk) s h hd hne

/-! ### `Buffered` -/

/-- `Buffered`: bounded lookahead while the consumer is there … -/
theorem buffered_lookahead (B n : Nat) (s : BufState) (h : BReach B n s) (hd : s.dropped = false) :
    s.pulled ≤ s.recvd.length + B + 1 := by
  have hi := binv_reach h
  have hf := congrArg List.length (hi.fifo hd)
  have hcl := hi.chan_le
  have hp : s.pc.pend.length ≤ 1 := by cases s.pc <;> simp [BPC.pend]
  simp only [List.length_append, List.length_range] at hf
  omega

/-- … and after a drop at most one more item is pulled, and the producer is never blocked -/
theorem buffered_drop_stops (B n : Nat) (s s' : BufState) (a : BAction) (h : BReach B n s)
    (hd : s.dropped = true) (hs : bstep s a = some s') :
    s'.dropped = true ∧ s'.pulled + (if s'.pc = BPC.idle then 1 else 0) ≤ s.pulled + (if s.pc = BPC.idle then 1 else 0) := by
  cases a with
  | pull =>
    simp only [bstep] at hs
    by_cases hpc : s.pc = .idle
    · rw [if_pos hpc] at hs
      refine ⟨?_, ?_⟩
      · split at hs <;> injection hs with hs <;> subst hs <;> exact hd
      · rw [if_pos hpc]
        split at hs <;> injection hs with hs <;> subst hs
        · exact Nat.le_refl _
        · exact Nat.le_succ _
    · rw [if_neg hpc] at hs; cases hs
  | send =>
    simp only [bstep] at hs
    split at hs
    · rename_i i hpc
      rw [if_pos hd] at hs
      injection hs with hs; subst hs
      exact ⟨hd, by rw [hpc]; exact Nat.le_refl _⟩
    · cases hs
  | recv => simp [bstep, hd] at hs
  | close => simp [bstep, hd] at hs
  | drop => simp [bstep, hd] at hs

theorem buffered_drop_exits (B n : Nat) (s : BufState) (h : BReach B n s) (hd : s.dropped = true)
    (hne : s.pc ≠ BPC.exited) : ∃ a s', (a = BAction.pull ∨ a = BAction.send) ∧ bstep s a = some s' := by
  cases hpc : s.pc with
  | idle =>
    by_cases hlt : s.pulled < s.n
    · exact ⟨.pull, { s with pc := .have s.pulled, pulled := s.pulled + 1 }, Or.inl rfl, by
        simp only [bstep, hpc, if_true, if_pos hlt]⟩
    · exact ⟨.pull, { s with pc := .exited }, Or.inl rfl, by
        simp only [bstep, hpc, if_true, if_neg hlt]⟩
  | «have» i =>
    refine ⟨.send, { s with pc := .exited }, Or.inr rfl, ?_⟩
    simp only [bstep, hpc, hd, if_true]
  | exited => exact absurd hpc hne

/-- complete iteration of `Buffered`: exactly the upstream sequence -/
theorem buffered_complete (B n : Nat) (s : BufState) (h : BReach B n s) (hc : s.closed = true) :
    s.recvd = List.range n := by
  have hi := binv_reach h
  obtain ⟨hpc, hch, hd⟩ := hi.closed_ hc
  have hf := hi.fifo hd
  rw [hpc, hch, hi.exited_ hd hpc] at hf
  simpa [BPC.pend] using hf

/-! non-vacuity -/

/-- run a schedule of the `Buffered` model -/
def brun (s : BufState) : List BAction → Option BufState
  | [] => some s
  | a :: as => match bstep s a with
    | some s' => brun s' as
    | none => none

example : (brun (BufState.init 1 2) [.pull, .send, .pull, .recv, .send, .pull, .recv, .close]).map
    (fun s => (s.recvd, s.closed, s.pulled)) = some ([0, 1], true, 2) := by decide +kernel
/-- rendezvous channel (`buffer_size = 0`) -/
example : (brun (BufState.init 0 2) [.pull, .send, .pull, .send, .pull, .close]).map
    (fun s => (s.recvd, s.closed, s.pulled)) = some ([0, 1], true, 2) := by decide +kernel
/-- drop while the producer holds an item: its send fails and it exits without pulling again -/
example : (brun (BufState.init 1 5) [.pull, .send, .pull, .drop, .send]).map
    (fun s => (s.dropped, s.pulled, decide (s.pc = .exited))) = some (true, 2, true) := by decide +kernel

/-- drop while worker 0 is about to send and worker 1 is spinning: both exit, nothing further is taken -/
example : (prun (PState.init 2 (fused 5))
    [.take 0, .take 1, .compute 0, .compute 1, .spin 0, .drop, .send 0, .spin 1, .advance 0, .spin 1, .send 1,
     .advance 1]).map
    (fun s => (s.dropped, s.next, allExited s)) = some (true, 2, true) := by decide +kernel

/-- the same drop over an upstream that is not fused (`Some, Some, None, Some, …`): both workers exit through
their failed sends, the `None` and what follows it are never asked for -/
example : (prun (PState.init 2 (srcOf [true, true, false, true, true]))
    [.take 0, .take 1, .compute 0, .compute 1, .spin 0, .drop, .send 0, .spin 1, .advance 0, .spin 1, .send 1,
     .advance 1]).map
    (fun s => (s.dropped, s.next, s.pulls, allExited s)) = some (true, 2, 2, true) := by decide +kernel

/-! ### why the panic hook is needed: the negative control

Without the hook that ends the process, a worker whose processing function panics simply vanishes
while it owns its item. `vanish` models that. The example exhibits a reachable state of a 2-worker
pipe in which the other worker waits for a turn that never comes and the consumer is blocked: no
action other than a failing spin (a stutter) is enabled, nothing was delivered, and the iteration
is not over. With the hook, the first panic ends the process instead. -/

/-- a worker dies while holding its item (what a panic does without the process-exit hook) -/
def vanish (s : PState) (w : Nat) : Option PState :=
  match s.pc w with
  | .holding _ => some { s with pc := setPc s.pc w .exited }
  | _ => none

/-- every action of a 2-worker pipe -/
def actions2 : List PAction :=
  [.take 0, .take 1, .compute 0, .compute 1, .spin 0, .spin 1, .send 0, .send 1, .advance 0, .advance 1, .recv, .close]

/-- the wedged state: worker 0 took item 0 and vanished, worker 1 computed item 1 and spins -/
def wedged : Option PState :=
  (prun (PState.init 2 (fused 3)) [.take 0, .take 1, .compute 1]).bind (fun s => vanish s 0)

theorem no_hook_wedges :
    (wedged.map (fun s => (s.closed, s.recvd, s.turn, decide (s.pc 1 = .computed 1)))) = some (false, [], 0, true) ∧
    (wedged.map (fun s => actions2.all (fun a =>
        match pstep s a with
        | none => true                                  -- not enabled
        | some s' => pmeasure 3 s' == pmeasure 3 s && s'.recvd == s.recvd && s'.closed == s.closed))) = some true := by
  decide

end Tu.C09

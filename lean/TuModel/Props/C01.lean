/-
  C01 — byte and character tokenizers encode every character faithfully and losslessly.
  Models: `Tu.byteTokenize` / `Tu.byteDetok` (Model/ByteTok.lean), `Tu.charTokenize` / `Tu.charDetok`
  (Model/CharTok.lean), `Tu.splitInput` (Model/Special.lean).
-/
import TuModel.Lemmas.SpecialL
import TuModel.Model.CharTok
namespace Tu.C01
open Tu

/-! ### byte tokenizer -/

/-- the shape of the id sequence: prefix ids, then the pieces of the text — regular pieces as their
bytes, every special-token occurrence as its single id — then suffix ids -/
theorem byteTokenize_shape (cfg : ByteCfg) (s : List Nat) (ign : Bool) :
    byteTokenize cfg s ign =
      cfg.sp.prefixIds ++ (splitInput cfg.sp s ign).flatMap (pieceIds cfg.sp) ++ cfg.sp.suffixIds := rfl

/-- the pieces are exactly the text (for any alternation order of the special-token pattern) -/
theorem pieces_are_text (sp : Special) (s : List Nat) (ign : Bool) :
    (splitInput sp s ign).flatMap Piece.bytes = s := splitInput_concat sp s ign

/-- without special-token parsing the text ids are exactly the UTF-8 bytes -/
theorem byteTokenize_ignore (cfg : ByteCfg) (s : List Nat) :
    byteTokenize cfg s true = cfg.sp.prefixIds ++ s ++ cfg.sp.suffixIds := by
  simp [byteTokenize, splitInput, pieceIds]

/-- regular ids are bytes (`< 256`), special ids lie at or above the offset 256 -/
theorem pieceIds_range (sp : Special) (ho : 256 ≤ sp.offset) (s : List Nat) (ign : Bool) (hs : ∀ x ∈ s, x < 256)
    (p : Piece) (hp : p ∈ splitInput sp s ign) :
    match p with
    | .regular r => ∀ id ∈ pieceIds sp (.regular r), id < 256
    | .special i b => pieceIds sp (.special i b) = [sp.offset + i] ∧ sp.tokens[i]? = some b := by
  cases p with
  | regular r => intro id hid; exact hs id (splitInput_regular_mem sp s ign r hp id (by simpa [pieceIds] using hid))
  | special i b => exact ⟨rfl, splitInput_special sp s ign i b hp⟩

/-- **decoding the text ids with special tokens kept returns the original bytes** -/
theorem byteDetok_text (cfg : ByteCfg) (ho : 256 ≤ cfg.sp.offset) (s : List Nat) (ign : Bool)
    (hs : ∀ x ∈ s, x < 256) :
    byteDetokBytes cfg.sp false ((splitInput cfg.sp s ign).flatMap (pieceIds cfg.sp)) = some s := by
  rw [byteDetokBytes_pieces cfg.sp ho _ (fun r hr x hx => hs x (splitInput_regular_mem _ _ _ r hr x hx))
    (fun i b hb => splitInput_special _ _ _ i b hb), splitInput_concat]

/-- **decoding the full id sequence with special tokens kept returns prefix tokens, the original
text, suffix tokens** — for every configuration accepted by the constructor -/
theorem byteDetok_tokenize_keep (cpGroups : Bool) (tokens : List (List Nat)) (padTo : Option Nat) (pad : List Nat)
    (pre suf : List (List Nat)) (cfg : ByteCfg) (hcfg : mkByteCfg cpGroups tokens padTo pad pre suf = some cfg)
    (s : List Nat) (ign : Bool) (hs : ∀ x ∈ s, x < 256) :
    byteDetokBytes cfg.sp false (byteTokenize cfg s ign) =
      some (specialBytes cfg.sp cfg.sp.prefixIds ++ s ++ specialBytes cfg.sp cfg.sp.suffixIds) := by
  obtain ⟨sp, hm, rfl⟩ := Option.map_eq_some_iff.1 hcfg
  obtain ⟨ho, _, hids⟩ := mkSpecial_ids hm
  have ho' : 256 ≤ sp.offset := Nat.le_of_eq ho.symm
  have hsub : ∀ {l}, l ⊆ sp.prefixIds ++ sp.suffixIds → ∀ id ∈ l, (sp.idToToken id).isSome = true :=
    fun hl id hid => hids id (List.mem_cons_of_mem _ (hl hid))
  simp only [byteTokenize, byteDetokBytes_append]
  rw [byteDetokBytes_specials sp ho' _ (hsub (List.subset_append_left _ _)),
    byteDetokBytes_specials sp ho' _ (hsub (List.subset_append_right _ _)),
    byteDetok_text { codePointGroups := cpGroups, sp := sp } ho' s ign hs]
  simp

/-- the decoded bytes are the input bytes, so a valid UTF-8 input decodes successfully to itself
(no prefix / suffix configured) -/
theorem byte_roundtrip (cfg : ByteCfg) (ho : 256 ≤ cfg.sp.offset) (hp : cfg.sp.prefixIds = []) (hsf : cfg.sp.suffixIds = [])
    (s : List Nat) (ign : Bool) (hs : ∀ x ∈ s, x < 256) (hv : validUtf8 s = true) :
    byteDetok cfg (byteTokenize cfg s ign) false = some s := by
  unfold byteDetok
  simp only [byteTokenize, hp, hsf, List.nil_append, List.append_nil]
  rw [byteDetok_text cfg ho s ign hs]
  simp [hv]

/-! ### character tokenizer -/

/-- exactly one id per character (cluster) and per special occurrence, plus prefix and suffix -/
theorem charTokenize_length (cfg : CharCfg) (pieces : List (Sum (List (List Nat)) Nat)) :
    (charTokenize cfg pieces).length =
      cfg.sp.prefixIds.length +
      (pieces.map (fun p => match p with | Sum.inl cl => cl.length | Sum.inr _ => 1)).sum +
      cfg.sp.suffixIds.length := by
  unfold charTokenize
  simp only [List.length_append, List.length_flatMap]
  congr 2
  apply congrArg
  apply List.map_congr_left
  intro p _
  cases p <;> simp

theorem charId_unk (cfg : CharCfg) (cl : List Nat) (h : ¬ ∃ c, cl = [c] ∧ c ∈ cfg.alphabet) : charId cfg cl = cfg.unkId := by
  match cl with
  | [c] =>
    simp only [charId]
    cases hi : natIdxOf cfg.alphabet c with
    | none => rfl
    | some i => exact absurd ⟨c, rfl, List.mem_of_getElem? (firstIdx_eq_some hi)⟩ h
  | [] => rfl
  | _ :: _ :: _ => rfl

/-- a code point of the alphabet gets its position as id -/
theorem charId_of_mem {cfg : CharCfg} {c : Nat} (hc : c ∈ cfg.alphabet) :
    cfg.alphabet[charId cfg [c]]? = some c := by
  obtain ⟨i, hi⟩ : ∃ i, natIdxOf cfg.alphabet c = some i := firstIdx_of_mem hc
  simp only [charId, hi, Option.getD_some]
  exact firstIdx_eq_some hi

/-- a character is mapped to the unknown id exactly when it is not a single code point of the alphabet -/
theorem charId_regular_iff (cfg : CharCfg) (hunk : cfg.alphabet.length ≤ cfg.unkId) (cl : List Nat) :
    charId cfg cl < cfg.alphabet.length ↔ ∃ c, cl = [c] ∧ c ∈ cfg.alphabet := by
  refine ⟨fun h => Classical.byContradiction fun hn => ?_, ?_⟩
  · rw [charId_unk cfg cl hn] at h
    omega
  · rintro ⟨c, rfl, hc⟩
    exact (List.getElem?_eq_some_iff.1 (charId_of_mem hc)).1

/-- **texts over the alphabet round-trip exactly** -/
theorem charDetok_regular (cfg : CharCfg) (ign : Bool) (clusters : List (List Nat))
    (h : ∀ cl ∈ clusters, ∃ c, cl = [c] ∧ c ∈ cfg.alphabet) :
    charDetok cfg ign (clusters.map (charId cfg)) = some (clusters.flatten.flatMap utf8) := by
  induction clusters with
  | nil => rfl
  | cons cl cls ih =>
    obtain ⟨c, rfl, hc⟩ := h cl List.mem_cons_self
    simp only [List.map_cons, charDetok, charId_of_mem hc, ih fun x hx => h x (List.mem_cons_of_mem _ hx)]
    rfl

theorem char_roundtrip (cfg : CharCfg) (hp : cfg.sp.prefixIds = []) (hsf : cfg.sp.suffixIds = []) (ign : Bool)
    (clusters : List (List Nat)) (h : ∀ cl ∈ clusters, ∃ c, cl = [c] ∧ c ∈ cfg.alphabet) :
    charDetok cfg ign (charTokenize cfg [Sum.inl clusters]) = some (clusters.flatten.flatMap utf8) := by
  simp only [charTokenize, hp, hsf, List.nil_append, List.append_nil, List.flatMap_cons, List.flatMap_nil]
  exact charDetok_regular cfg ign clusters h

/-! non-vacuity -/
example : (mkByteCfg false [[60,112,62]] none [60,112,62] [[60,112,62]] []).isSome = true := by decide +kernel
example : splitInput { tokens := [[60,112,62]], offset := 256, padId := 256, prefixIds := [], suffixIds := [] }
    [97, 60, 112, 62, 60, 112] false = [.regular [97], .special 0 [60,112,62], .regular [60,112]] := by decide +kernel

/-! ### independence of the alternation order (the code iterates a `HashMap`) -/

theorem isPrefixOf_total (t u s : List Nat) (h1 : t.isPrefixOf s = true) (h2 : u.isPrefixOf s = true)
    (hl : t.length ≤ u.length) : t.isPrefixOf u = true :=
  List.isPrefixOf_iff_prefix.2
    (List.prefix_of_prefix_length_le (List.isPrefixOf_iff_prefix.1 h1) (List.isPrefixOf_iff_prefix.1 h2) hl)

theorem prefixFree_spec {toks : List (List Nat)} (hpf : prefixFree toks = true) :
    (∀ a ∈ toks, ∀ b ∈ toks, a.isPrefixOf b = true → a = b) ∧ ∀ a ∈ toks, a ≠ [] := by
  unfold prefixFree at hpf
  simp only [Bool.and_eq_true, List.all_eq_true, Bool.or_eq_true, beq_iff_eq, Bool.not_eq_true',
    List.isEmpty_eq_false_iff] at hpf
  refine ⟨fun a ha b hb hab => ?_, hpf.2⟩
  rcases hpf.1 a ha b hb with h | h
  · exact h
  · rw [h] at hab; cases hab

theorem matchAt_unique (toks : List (List Nat)) (hpf : prefixFree toks = true) (s : List Nat) (i j : Nat) (t u : List Nat)
    (ht : t ∈ toks) (hu : u ∈ toks) (h1 : t.isPrefixOf s = true) (h2 : u.isPrefixOf s = true) : t = u := by
  have hsp := (prefixFree_spec hpf).1
  rcases Nat.le_total t.length u.length with hl | hl
  · exact hsp t ht u hu (isPrefixOf_total t u s h1 h2 hl)
  · exact (hsp u hu t ht (isPrefixOf_total u t s h2 h1 hl)).symm

theorem matchAt_none {toks : List (List Nat)} {i : Nat} {s : List Nat} (h : matchAt toks i s = none) :
    ∀ t ∈ toks, t ≠ [] → t.isPrefixOf s = false := by
  induction toks generalizing i with
  | nil => intro t ht; simp at ht
  | cons u us ih =>
    unfold matchAt at h
    split at h
    · simp at h
    · rename_i hc
      intro t ht hne
      rcases List.mem_cons.mp ht with rfl | ht
      · simp only [Bool.and_eq_true, Bool.not_eq_true', List.isEmpty_eq_false_iff, not_and, Bool.not_eq_true] at hc
        exact hc hne
      · exact ih h t ht hne

theorem matchAt_mem {toks : List (List Nat)} {i j : Nat} {s t : List Nat} (h : matchAt toks i s = some (j, t)) : t ∈ toks :=
  List.mem_of_getElem? (matchAt_some h).2.2.2

theorem prefixFree_perm {toks toks' : List (List Nat)} (hp : toks.Perm toks') (h : prefixFree toks = true) :
    prefixFree toks' = true := by
  unfold prefixFree at *
  simp only [Bool.and_eq_true, List.all_eq_true] at h ⊢
  exact ⟨fun a ha b hb => h.1 a (hp.mem_iff.mpr ha) b (hp.mem_iff.mpr hb), fun a ha => h.2 a (hp.mem_iff.mpr ha)⟩

/-- the alternation step finds the same token for every order of the alternatives -/
theorem matchAt_perm (toks toks' : List (List Nat)) (hp : toks.Perm toks') (hpf : prefixFree toks = true) (s : List Nat) :
    (matchAt toks 0 s).map (·.2) = (matchAt toks' 0 s).map (·.2) := by
  cases h1 : matchAt toks 0 s with
  | none =>
    cases h2 : matchAt toks' 0 s with
    | none => rfl
    | some r =>
      obtain ⟨j, u⟩ := r
      obtain ⟨hne, hpre, _, _⟩ := matchAt_some h2
      have := matchAt_none h1 u (hp.mem_iff.mpr (matchAt_mem h2)) hne
      rw [this] at hpre; cases hpre
  | some r =>
    obtain ⟨i, t⟩ := r
    obtain ⟨hne, hpre, _, _⟩ := matchAt_some h1
    cases h2 : matchAt toks' 0 s with
    | none =>
      have := matchAt_none h2 t (hp.mem_iff.mp (matchAt_mem h1)) hne
      rw [this] at hpre; cases hpre
    | some r =>
      obtain ⟨j, u⟩ := r
      obtain ⟨_, hpre2, _, _⟩ := matchAt_some h2
      have := matchAt_unique toks hpf s 0 0 t u (matchAt_mem h1) (hp.mem_iff.mpr (matchAt_mem h2)) hpre hpre2
      simp [this]

theorem splitAux_perm (toks toks' : List (List Nat)) (hp : toks.Perm toks') (hpf : prefixFree toks = true) :
    ∀ (fuel : Nat) (s cur : List Nat),
      (splitAux toks fuel s cur).map (fun p => (match p with | .regular b => (false, b) | .special _ b => (true, b))) =
      (splitAux toks' fuel s cur).map (fun p => (match p with | .regular b => (false, b) | .special _ b => (true, b))) := by
  intro fuel
  induction fuel with
  | zero => intro s cur; simp [splitAux]
  | succ fuel ih =>
    intro s cur
    cases s with
    | nil => simp [splitAux]
    | cons b rest =>
      have hm := matchAt_perm toks toks' hp hpf (b :: rest)
      simp only [splitAux]
      cases h1 : matchAt toks 0 (b :: rest) with
      | none =>
        cases h2 : matchAt toks' 0 (b :: rest) with
        | none => simp only []; exact ih _ _
        | some r => rw [h1, h2] at hm; simp at hm
      | some r =>
        cases h2 : matchAt toks' 0 (b :: rest) with
        | none => rw [h1, h2] at hm; simp at hm
        | some r' =>
          obtain ⟨i, t⟩ := r
          obtain ⟨j, u⟩ := r'
          rw [h1, h2] at hm
          simp at hm; subst hm
          simp only [List.map_append, List.map_cons]
          rw [ih]

/-- consequence for `split_input` -/
theorem splitInput_perm (sp sp' : Special) (hp : sp.tokens.Perm sp'.tokens) (hpf : prefixFree sp.tokens = true)
    (s : List Nat) (ign : Bool) :
    (splitInput sp s ign).map (fun p => (match p with | .regular b => (false, b) | .special _ b => (true, b))) =
    (splitInput sp' s ign).map (fun p => (match p with | .regular b => (false, b) | .special _ b => (true, b))) := by
  unfold splitInput
  rw [hp.isEmpty_eq]
  split
  · rfl
  · exact splitAux_perm _ _ hp hpf _ _ _

example : prefixFree [[60,112,62],[60,113,62]] = true := by decide +kernel
end Tu.C01

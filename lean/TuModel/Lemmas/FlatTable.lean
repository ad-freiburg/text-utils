/-
  Facts that mention no model: selecting folds (`Iterator::min_by` / `max_by`), a check of adjacent
  elements as `Pairwise`, reversed prefixes of a list, and a row-major table filled cell by cell.
-/
import TuModel.Lemmas.ListL
namespace Tu

theorem foldl_select_mem {α : Type} (c : α → α → Prop) [∀ m y, Decidable (c m y)] (xs : List α) (x : α) :
    xs.foldl (fun m y => if c m y then y else m) x ∈ x :: xs := by
  induction xs generalizing x with
  | nil => exact List.mem_cons_self ..
  | cons y ys ih =>
    rw [List.foldl_cons]
    rcases List.mem_cons.mp (ih (if c x y then y else x)) with h | h
    · rw [h]; split
      · exact List.mem_cons_of_mem _ (List.mem_cons_self ..)
      · exact List.mem_cons_self ..
    · exact List.mem_cons_of_mem _ (List.mem_cons_of_mem _ h)

theorem foldl_select_le {α : Type} (c r : α → α → Prop) [∀ m y, Decidable (c m y)]
    (hrefl : ∀ u, r u u) (htrans : ∀ u v w, r u v → r v w → r u w)
    (hc : ∀ m y, c m y → r y m) (hn : ∀ m y, ¬ c m y → r m y) (xs : List α) (x : α) :
    ∀ z ∈ x :: xs, r (xs.foldl (fun m y => if c m y then y else m) x) z := by
  induction xs generalizing x with
  | nil => intro z hz; rw [List.mem_singleton.mp hz]; exact hrefl _
  | cons y ys ih =>
    rw [List.foldl_cons]
    have hx : r (if c x y then y else x) x := by split; exact hc _ _ ‹_›; exact hrefl _
    have hy : r (if c x y then y else x) y := by split; exact hrefl _; exact hn _ _ ‹_›
    intro z hz
    have h0 := ih (if c x y then y else x) _ (List.mem_cons_self ..)
    rcases List.mem_cons.mp hz with rfl | hz
    · exact htrans _ _ _ h0 hx
    · rcases List.mem_cons.mp hz with rfl | hz
      · exact htrans _ _ _ h0 hy
      · exact ih _ z (List.mem_cons_of_mem _ hz)

theorem adjacent_iff_pairwise {α} {R : α → α → Prop} (htrans : ∀ {x y z}, R x y → R y z → R x z) (chk : List α → Bool)
    (h0 : chk [] = true) (h1 : ∀ p, chk [p] = true)
    (h2 : ∀ p q rest, chk (p :: q :: rest) = true ↔ R p q ∧ chk (q :: rest) = true) :
    ∀ l, chk l = true ↔ l.Pairwise R := by
  intro l
  induction l with
  | nil => exact ⟨fun _ => .nil, fun _ => h0⟩
  | cons p l ih =>
    cases l with
    | nil => exact ⟨fun _ => List.pairwise_singleton _ _, fun _ => h1 p⟩
    | cons q rest =>
      rw [h2, ih, List.pairwise_cons (a := p), List.pairwise_cons]
      constructor
      · rintro ⟨hpq, hq, hr⟩
        exact ⟨List.forall_mem_cons.mpr ⟨hpq, fun x hx => htrans hpq (hq x hx)⟩, hq, hr⟩
      · rintro ⟨hp, hq, hr⟩
        exact ⟨hp q (List.mem_cons_self ..), hq, hr⟩

theorem take_succ_reverse (l : List (List Nat)) (i : Nat) (h : i < l.length) :
    (l.take (i + 1)).reverse = l.getD i [] :: (l.take i).reverse := by
  rw [List.take_succ_eq_append_getElem h, getD_eq_getElem l i [] h, List.reverse_append, List.reverse_singleton,
    List.singleton_append]

theorem take_reverse_head? {α} (l : List α) (i : Nat) (h : i ≤ l.length) :
    (l.take i).reverse.head? = if i = 0 then none else l[i - 1]? := by
  rw [List.head?_reverse, List.getLast?_take]
  split
  · rfl
  · rw [List.getElem?_eq_getElem (by omega), Option.some_or]

theorem take_reverse_tail {α} (l : List α) (i : Nat) (h : i ≤ l.length) :
    (l.take i).reverse.tail = (l.take (i - 1)).reverse := by
  cases i with
  | zero => rfl
  | succ i => rw [List.take_add_one, List.reverse_append, List.getElem?_eq_getElem (by omega)]; rfl

theorem fold_push_inv {β : Type} (f : Array β → Nat → β) (P : Nat → β → Prop)
    (hstep : ∀ (tbl : Array β) (k : Nat), tbl.size = k →
      (∀ idx (h : idx < tbl.size), P idx tbl[idx]) → P k (f tbl k)) :
    ∀ n, ((List.range n).foldl (fun t k => t.push (f t k)) #[]).size = n ∧
      ∀ idx (h : idx < ((List.range n).foldl (fun t k => t.push (f t k)) #[]).size),
        P idx ((List.range n).foldl (fun t k => t.push (f t k)) #[])[idx] := by
  intro n
  induction n with
  | zero => exact ⟨rfl, fun _ h => absurd h (Nat.not_lt_zero _)⟩
  | succ n ih =>
    obtain ⟨hs, hp⟩ := ih
    rw [List.range_succ, List.foldl_append, List.foldl_cons, List.foldl_nil]
    refine ⟨by rw [Array.size_push, hs], fun idx h => ?_⟩
    rw [Array.getElem_push]
    split
    · exact hp idx ‹_›
    · have he : idx = n := by rw [Array.size_push, hs] at h; omega
      subst he
      exact hstep _ _ hs hp

theorem flat_index {cols i j : Nat} (hj : j < cols) : (i * cols + j) / cols = i ∧ (i * cols + j) % cols = j := by
  rw [Nat.mul_comm, Nat.mul_add_div (by omega), Nat.mul_add_mod, Nat.div_eq_of_lt hj, Nat.mod_eq_of_lt hj]
  exact ⟨rfl, rfl⟩

theorem flat_index_lt {cols i j i' j' : Nat} (h : i' < i ∨ (i' = i ∧ j' < j)) (hj' : j' < cols) :
    i' * cols + j' < i * cols + j := by
  rcases h with h | ⟨rfl, h⟩
  · have := Nat.mul_le_mul_right cols (show i' + 1 ≤ i from h)
    rw [Nat.add_mul] at this
    omega
  · omega

/-- a row-major `(m+1) × (n+1)` table filled cell by cell, every cell computed from already filled cells: if
the step function establishes `Q i j` from `Q` on all earlier cells, then `Q` holds everywhere. -/
theorem flat_fill_spec {β : Type} (dflt : β) (step : (Nat → Nat → β) → Nat → Nat → β) (m n : Nat)
    (Q : Nat → Nat → β → Prop)
    (hstep : ∀ (get : Nat → Nat → β) (i j : Nat), i ≤ m → j ≤ n →
      (∀ i' j', (i' < i ∨ (i' = i ∧ j' < j)) → j' ≤ n → Q i' j' (get i' j')) → Q i j (step get i j))
    (i j : Nat) (hi : i ≤ m) (hj : j ≤ n) :
    Q i j (((List.range ((m + 1) * (n + 1))).foldl
      (fun t k => t.push (step (fun i j => t.getD (i * (n + 1) + j) dflt) (k / (n + 1)) (k % (n + 1)))) #[]).getD
        (i * (n + 1) + j) dflt) := by
  have key := fold_push_inv
    (fun t k => step (fun i j => t.getD (i * (n + 1) + j) dflt) (k / (n + 1)) (k % (n + 1)))
    (fun idx v => ∀ i j, i ≤ m → j ≤ n → idx = i * (n + 1) + j → Q i j v)
    (by
      intro tbl k hsz hP i j hi hj hk
      subst hk
      rw [(flat_index (Nat.lt_succ_of_le hj)).1, (flat_index (Nat.lt_succ_of_le hj)).2]
      refine hstep _ i j hi hj fun i' j' hlt hj' => ?_
      have hidx : i' * (n + 1) + j' < tbl.size := hsz ▸ flat_index_lt hlt (Nat.lt_succ_of_le hj')
      rw [Array.getD_eq_getD_getElem?, Array.getElem?_eq_getElem hidx]
      exact hP _ hidx i' j' (hlt.elim (fun h => Nat.le_trans (Nat.le_of_lt h) hi) fun h => h.1 ▸ hi) hj' rfl)
    ((m + 1) * (n + 1))
  have hidx : i * (n + 1) + j < (m + 1) * (n + 1) :=
    flat_index_lt (j := 0) (.inl (Nat.lt_succ_of_le hi)) (Nat.lt_succ_of_le hj)
  rw [Array.getD_eq_getD_getElem?, Array.getElem?_eq_getElem (key.1.symm ▸ hidx)]
  exact key.2 _ _ i j hi hj rfl

end Tu

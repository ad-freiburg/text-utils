/-
  Consequences of `wfTable`: merge ids are `< t.length` (pigeonhole), ids and keys are unique, and
  `tlookup` / `tbytes` invert each other.
-/
import TuModel.Model.Bpe
import TuModel.Lemmas.ListL
namespace Tu

/-! Lookup by a key `f` that no two elements share (`tlookup`: `f = Prod.fst`, `tbytes`: `f = Prod.snd`). -/

section
variable {α κ : Type} [BEq κ] [LawfulBEq κ] {f : α → κ} {l : List α}

theorem of_find?_key {k : κ} {e : α} (h : l.find? (fun e => f e == k) = some e) : e ∈ l ∧ f e = k :=
  ⟨List.mem_of_find?_eq_some h, eq_of_beq (List.find?_some (p := fun e => f e == k) h)⟩

theorem find?_key_of_mem (hu : ∀ e1 ∈ l, ∀ e2 ∈ l, f e1 = f e2 → e1 = e2) {e : α} (he : e ∈ l) :
    l.find? (fun e' => f e' == f e) = some e := by
  cases hf : l.find? (fun e' => f e' == f e) with
  | none => exact absurd (beq_self_eq_true (f e)) (List.find?_eq_none.1 hf e he)
  | some e' => obtain ⟨hm, hk⟩ := of_find?_key hf; rw [hu e' hm e he hk]

theorem key_unique_of_filter (h : ∀ e ∈ l, (l.filter (fun e' => f e' == f e)).length = 1) :
    ∀ e1 ∈ l, ∀ e2 ∈ l, f e1 = f e2 → e1 = e2 := by
  intro e1 h1 e2 h2 heq
  obtain ⟨x, hx⟩ := List.length_eq_one_iff.1 (h e1 h1)
  have m1 : e1 ∈ l.filter (fun e => f e == f e1) := List.mem_filter.2 ⟨h1, beq_self_eq_true _⟩
  have m2 : e2 ∈ l.filter (fun e => f e == f e1) := List.mem_filter.2 ⟨h2, beq_of_eq heq.symm⟩
  rw [hx, List.mem_singleton] at m1 m2
  rw [m1, m2]

end

theorem tlookup_mem {t : MTable} {b : List Nat} {k : Nat} (h : tlookup t b = some k) : (b, k) ∈ t := by
  obtain ⟨⟨b', k'⟩, he, rfl⟩ := Option.map_eq_some_iff.1 h
  obtain ⟨hm, rfl⟩ := of_find?_key (f := Prod.fst) he
  exact hm

theorem tbytes_mem {t : MTable} {k : Nat} {b : List Nat} (h : tbytes t k = some b) : (b, k) ∈ t := by
  obtain ⟨⟨b', k'⟩, he, rfl⟩ := Option.map_eq_some_iff.1 h
  obtain ⟨hm, rfl⟩ := of_find?_key (f := Prod.snd) he
  exact hm

theorem tlookup_of_mem {t : MTable} (hu : ∀ e1 ∈ t, ∀ e2 ∈ t, e1.1 = e2.1 → e1 = e2)
    {b : List Nat} {j : Nat} (hm : (b, j) ∈ t) : tlookup t b = some j := by
  rw [tlookup, find?_key_of_mem (f := Prod.fst) hu hm]; rfl

theorem tbytes_of_mem {t : MTable} (hu : ∀ e1 ∈ t, ∀ e2 ∈ t, e1.2 = e2.2 → e1 = e2)
    {b : List Nat} {j : Nat} (hm : (b, j) ∈ t) : tbytes t j = some b := by
  rw [tbytes, find?_key_of_mem (f := Prod.snd) hu hm]; rfl

theorem isTokenBefore_mono {t t' : MTable} {k : Nat} {b : List Nat}
    (hl : ∀ j, tlookup t b = some j → j < k → tlookup t' b = some j)
    (h : isTokenBefore t k b = true) : isTokenBefore t' k b = true := by
  have key : (match tlookup t b with | some j => decide (j < k) | none => false) = true →
      (match tlookup t' b with | some j => decide (j < k) | none => false) = true := by
    intro h
    cases hj : tlookup t b with
    | none => rw [hj] at h; simp at h
    | some j =>
      rw [hj] at h
      have hjk : j < k := of_decide_eq_true h
      rw [hl j hj hjk]; exact h
  match b, hl, h, key with
  | [], _, h, key => exact key h
  | [x], _, h, _ => exact h
  | x :: y :: r, _, h, key => exact key h

theorem mem_of_once {t : MTable} {k : Nat} (h : (t.filter (fun e => e.2 == k)).length = 1) : ∃ b, (b, k) ∈ t := by
  obtain ⟨⟨b, j⟩, he⟩ := List.length_pos_iff_exists_mem.1 (Nat.lt_of_lt_of_eq Nat.one_pos h.symm)
  obtain ⟨hm, hj⟩ := List.mem_filter.1 he
  exact ⟨b, eq_of_beq hj ▸ hm⟩

/-- pigeonhole: if every id below the length occurs, the ids are exactly those, each once -/
theorem ids_perm_range {t : MTable} (h : ∀ k, k < t.length → ∃ b, (b, k) ∈ t) :
    (List.range t.length).Perm (t.map (·.2)) :=
  perm_of_nodup_subset _ _ List.nodup_range
    (fun k hk => (h k (List.mem_range.1 hk)).elim fun b hb => List.mem_map.2 ⟨(b, k), hb, rfl⟩)
    (by rw [List.length_map, List.length_range]; exact Nat.le_refl _)

theorem id_lt_of_once {t : MTable} (h : ∀ k, k < t.length → (t.filter (fun e => e.2 == k)).length = 1) :
    ∀ e ∈ t, e.2 < t.length := fun _ he =>
  List.mem_range.1 ((ids_perm_range fun k hk => mem_of_once (h k hk)).mem_iff.2 (List.mem_map_of_mem he))

theorem ids_unique_of_once {t : MTable} (h : ∀ k, k < t.length → (t.filter (fun e => e.2 == k)).length = 1) :
    ∀ e1 ∈ t, ∀ e2 ∈ t, e1.2 = e2.2 → e1 = e2 :=
  key_unique_of_filter (f := Prod.snd) fun e he => h e.2 (id_lt_of_once h e he)

theorem splitsOf_length (b : List Nat) : (splitsOf b).length = b.length - 1 := by
  rw [splitsOf, List.length_map, List.length_range]

theorem mem_splitsOf (l r : List Nat) (hl : l ≠ []) (hr : r ≠ []) : (l, r) ∈ splitsOf (l ++ r) := by
  unfold splitsOf
  rw [List.mem_map]
  have h1 : 0 < l.length := List.length_pos_iff.mpr hl
  have h2 : 0 < r.length := List.length_pos_iff.mpr hr
  refine ⟨l.length - 1, ?_, ?_⟩
  · rw [List.mem_range, List.length_append]; omega
  · have : l.length - 1 + 1 = l.length := by omega
    rw [this]
    simp

theorem wfTable_iff {t : MTable} : wfTable t = true ↔
    (∀ k, k < t.length → (t.filter (fun e => e.2 == k)).length = 1) ∧
    (∀ e ∈ t, (t.filter (fun e' => e'.1 == e.1)).length = 1) ∧
    (∀ e ∈ t, (∀ x ∈ e.1, x < 256) ∧
      ∃ p ∈ splitsOf e.1, isTokenBefore t e.2 p.1 = true ∧ isTokenBefore t e.2 p.2 = true) := by
  simp only [wfTable, Bool.and_eq_true, List.all_eq_true, List.any_eq_true, List.mem_range, beq_iff_eq,
    decide_eq_true_eq, and_assoc]

theorem wf_first {t : MTable} (hwf : wfTable t = true) :
    ∀ k, k < t.length → (t.filter (fun e => e.2 == k)).length = 1 :=
  (wfTable_iff.1 hwf).1

theorem wf_id_lt {t : MTable} (hwf : wfTable t = true) : ∀ e ∈ t, e.2 < t.length :=
  id_lt_of_once (wf_first hwf)

/-- among ALL entries, not only those with an id below the length -/
theorem wf_ids_unique {t : MTable} (hwf : wfTable t = true) :
    ∀ e1 ∈ t, ∀ e2 ∈ t, e1.2 = e2.2 → e1 = e2 :=
  ids_unique_of_once (wf_first hwf)

theorem wf_keys_unique {t : MTable} (hwf : wfTable t = true) :
    ∀ e1 ∈ t, ∀ e2 ∈ t, e1.1 = e2.1 → e1 = e2 :=
  key_unique_of_filter (f := Prod.fst) (wfTable_iff.1 hwf).2.1

theorem tlookup_inj {t : MTable} (hwf : wfTable t = true) {b1 b2 : List Nat} {k : Nat}
    (h1 : tlookup t b1 = some k) (h2 : tlookup t b2 = some k) : b1 = b2 :=
  (Prod.mk.inj (wf_ids_unique hwf _ (tlookup_mem h1) _ (tlookup_mem h2) rfl)).1

theorem tlookup_lt {t : MTable} (hwf : wfTable t = true) {b : List Nat} {k : Nat}
    (h : tlookup t b = some k) : k < t.length :=
  wf_id_lt hwf _ (tlookup_mem h)

theorem tbytes_of_tlookup {t : MTable} (hwf : wfTable t = true) {b : List Nat} {k : Nat}
    (h : tlookup t b = some k) : tbytes t k = some b :=
  tbytes_of_mem (wf_ids_unique hwf) (tlookup_mem h)

theorem tlookup_of_tbytes {t : MTable} (hwf : wfTable t = true) {k : Nat} {b : List Nat}
    (h : tbytes t k = some b) : tlookup t b = some k :=
  tlookup_of_mem (wf_keys_unique hwf) (tbytes_mem h)

theorem tbytes_isSome_of_wf {t : MTable} (h : wfTable t = true) :
    ∀ k, k < t.length → (tbytes t k).isSome = true := fun k hk =>
  (mem_of_once (wf_first h k hk)).elim fun _ hm => Option.isSome_of_eq_some (tbytes_of_mem (wf_ids_unique h) hm)

/-- a key is the concatenation of two non-empty parts -/
theorem wf_key_length {t : MTable} (hwf : wfTable t = true) : ∀ e ∈ t, 2 ≤ e.1.length := by
  intro e he
  obtain ⟨p, hp, _⟩ := ((wfTable_iff.1 hwf).2.2 e he).2
  have := List.length_pos_of_mem hp
  rw [splitsOf_length] at this
  omega

end Tu

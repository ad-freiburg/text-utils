/-
  The incremental BPE trainer (Model/BpeTrainInc.lean), one step of the merge loop: `update_stats` keeps the statistics
  exact word by word (`MidInv`: exact for every pair but the merged one, which is zeroed; `change_step`), `replace_pair`
  and `update_stats` are followed together along the `words` map of the pair (`pairLoops_ok`), and so exact statistics
  for `c` become exact statistics for `applyMerge c p` (`trainStep_ok`, with the freshness of the merged token as a
  hypothesis).
-/
import TuModel.Lemmas.BpeTrainStats
import TuModel.Lemmas.BpeTrainLoops
namespace Tu.BpeTrainIncL
open Tu

/-- the statistics in the middle of `update_stats` for the pair `p`: exact for every other pair, zero for `p` -/
structure MidInv (p : BPair) (c : Corpus) (st : Stats) : Prop where
  wf : StatsWf c.length st
  other : ∀ q, q ≠ p → freqOf st q = pairFreq c q ∧ ∀ i, occOf st q i = wcount c i q
  self : freqOf st p = 0 ∧ ∀ i, occOf st p i = 0

theorem change_step (x y : Tok) (hx : x ≠ []) (hy : y ≠ []) (c : Corpus) (st : Stats) (idx : Nat) (old : List Tok) (f : Nat)
    (hinv : MidInv (x, y) c st) (hget : c[idx]? = some (old, f)) (hfresh : (x ++ y) ∉ old) (hk : hasKey st (x, y) idx) :
    ∃ st1, applyDecs idx f (decsN x y none old) st = some st1 ∧
      MidInv (x, y) (c.set idx (rep x y old, f)) (applyIncs idx f (incsN (x ++ y) none (rep x y old)) st1) ∧
      ∀ q i, hasKey st q i → hasKey (applyIncs idx f (incsN (x ++ y) none (rep x y old)) st1) q i := by
  have hidx : idx < c.length := (List.getElem?_eq_some_iff.mp hget).1
  have hwc : ∀ q, wcount c idx q = cnt q (wordPairs old) := fun q => wcount_of_get c idx q old f hget
  have hle : ∀ q, cnt q (decsN x y none old) ≤ cnt q (wordPairs old) := fun q => decs_le x y q old none
  have hkeys : ∀ q ∈ decsN x y none old, hasKey st q idx := by
    intro q hq
    by_cases hqp : q = (x, y)
    · rw [hqp]; exact hk
    · apply occOf_pos_hasKey
      rw [((hinv.other q hqp).2 idx), hwc]
      exact Nat.lt_of_lt_of_le ((cnt_pos_iff q _).mpr hq) (hle q)
  obtain ⟨st1, e1, d1, d2, d3, d4⟩ := applyDecs_effect c.length idx f (decsN x y none old) st hkeys
  obtain ⟨i1, i2, i3, i4⟩ := applyIncs_effect c.length idx f hidx (incsN (x ++ y) none (rep x y old)) st1
  refine ⟨st1, e1, ?_, ?_⟩
  · refine ⟨?_, ?_, ?_⟩
    · rw [List.length_set]
      exact i4 (d4 hinv.wf)
    · intro q hqp
      have hbal := count_balance x y q hqp old none hfresh
      have hle := hle q
      rw [pairsP_none, pairsP_none] at hbal
      obtain ⟨hs1, hs2⟩ := pairFreq_set q c idx old (rep x y old) f hget
      refine ⟨?_, ?_⟩
      · rw [i1, d1, (hinv.other q hqp).1]
        have m1 := congrArg (fun t => f * t) hbal
        simp only [Nat.mul_add] at m1
        have m2 := Nat.mul_le_mul_left f hle
        omega
      · intro i
        rw [i2, d2, (hinv.other q hqp).2, wcount_set c idx i _ q hidx]
        by_cases hi : idx = i
        · subst hi
          simp only [if_true]
          rw [hwc]
          omega
        · simp only [hi, if_false]
    · have hz : cnt (x, y) (incsN (x ++ y) none (rep x y old)) = 0 := incs_xy_zero x y hx hy _ none
      refine ⟨?_, ?_⟩
      · rw [i1, d1, hinv.self.1, hz]; simp
      · intro i
        rw [i2, d2, hinv.self.2, hz]
        split <;> simp
  · intro q i h
    exact i3 q i ((d3 q i).mpr h)

def applyChanges : Corpus → Changes → Corpus
  | c, [] => c
  | c, e :: r => applyChanges (c.set e.1 (e.2.2.1, e.2.2.2)) r

theorem applyChanges_length : ∀ (ch : Changes) (c : Corpus), (applyChanges c ch).length = c.length := by
  intro ch
  induction ch with
  | nil => intro c; rfl
  | cons e r ih => intro c; rw [applyChanges, ih, List.length_set]

def zeroFn (info : PairInfo) : PairInfo := (0, info.2.map (fun io => (io.1, 0)))

theorem alKeys_zero (ws : List (Nat × Nat)) : alKeys (ws.map (fun io => (io.1, 0))) = alKeys ws := by
  unfold alKeys
  rw [List.map_map]
  rfl

theorem alGet_zero : ∀ (ws : List (Nat × Nat)) (i : Nat),
    alGet (ws.map (fun io => (io.1, 0))) i = (alGet ws i).map (fun _ => 0) := by
  intro ws
  induction ws with
  | nil => intro i; rfl
  | cons e r ih =>
    intro i
    obtain ⟨k, v⟩ := e
    rw [List.map_cons, alGet_cons, alGet_cons, ih]
    split <;> rfl

theorem zero_ok (p : BPair) (c : Corpus) (st : Stats) (h : StatsOk c st) :
    MidInv p c (alModify zeroFn st p) ∧ ∀ i, i ∈ alKeys (entry st p).2 → hasKey (alModify zeroFn st p) p i := by
  have hwf := (StatsWf_iff _ _).mp h.1
  have hz := entry_modify zeroFn rfl st p
  refine ⟨⟨(StatsWf_iff _ _).mpr ⟨by rw [alKeys_modify]; exact hwf.1, fun q => ?_⟩, fun q hqp => ?_, ?_, fun i => ?_⟩,
    fun i hi => ?_⟩
  · rw [hz]
    split
    · rw [zeroFn, alKeys_zero]; exact hwf.2 q
    · exact hwf.2 q
  · have e : entry (alModify zeroFn st p) q = entry st q := by rw [hz, if_neg fun hh => hqp hh.symm]
    refine ⟨?_, fun i => ?_⟩
    · rw [freqOf_eq, e, ← freqOf_eq]; exact (h.2 q).1
    · rw [occOf_eq, e, ← occOf_eq]; exact (h.2 q).2 i
  · rw [freqOf_eq, hz, if_pos rfl]; rfl
  · rw [occOf_eq, hz, if_pos rfl, zeroFn, alGet_zero]
    cases alGet (entry st p).2 i <;> rfl
  · rw [hasKey_iff, hz, if_pos rfl, zeroFn, alKeys_zero]; exact hi

theorem applyMerge_getElem? (c : Corpus) (p : BPair) (i : Nat) :
    (applyMerge c p)[i]? = (c[i]?).map (fun e => (replacePairInWord e.1 p.1 p.2, e.2)) := by
  unfold applyMerge
  rw [List.getElem?_map]

theorem pairFreq_applyMerge_self (x y : Tok) (hx : x ≠ []) (hy : y ≠ []) : ∀ (c : Corpus), pairFreq (applyMerge c (x, y)) (x, y) = 0 := by
  intro c
  induction c with
  | nil => rfl
  | cons e r ih =>
    obtain ⟨w, n⟩ := e
    have : applyMerge ((w, n) :: r) (x, y) = (replacePairInWord w x y, n) :: applyMerge r (x, y) := rfl
    rw [this, pairFreq_cons, ih, replacePairInWord_eq_rep w x y hy, rep_xy_zero x y hx hy]
    simp

theorem wcount_applyMerge_self (x y : Tok) (hx : x ≠ []) (hy : y ≠ []) (c : Corpus) (i : Nat) :
    wcount (applyMerge c (x, y)) i (x, y) = 0 := by
  rw [wcount_eq, applyMerge_getElem?]
  cases c[i]? with
  | none => rfl
  | some e =>
    simp only [Option.map_some, Option.getD_some]
    rw [replacePairInWord_eq_rep _ x y hy, rep_xy_zero x y hx hy]

theorem applyMerge_getElem?_of_wcount_zero (x y : Tok) (hy : y ≠ []) (c : Corpus) (i : Nat) (h : wcount c i (x, y) = 0) :
    (applyMerge c (x, y))[i]? = c[i]? := by
  rw [applyMerge_getElem?]
  cases hci : c[i]? with
  | none => rfl
  | some e =>
    rw [wcount_of_get c i (x, y) e.1 e.2 hci] at h
    rw [Option.map_some, replacePairInWord_eq_rep e.1 x y hy, rep_noop x y e.1 h]

/-- `replace_pair` and `update_stats` walk the `words` map `ws` of the pair in the same order, and `update_stats` sees the
vocabulary only through the recorded changes: so the two loops are followed together, as if a word were replaced and its
statistics updated at once.  `cur` is the vocabulary so far: the words still to come are untouched, every other word
has its final form. -/
theorem pairLoops_ok (x y : Tok) (hx : x ≠ []) (hy : y ≠ []) (c : Corpus) (hfresh : ∀ e ∈ c, (x ++ y) ∉ e.1) :
    ∀ (ws : List (Nat × Nat)) (cur : Corpus) (ch0 : Changes) (st : Stats), (alKeys ws).Nodup →
      (∀ io ∈ ws, io.2 = wcount c io.1 (x, y) ∧ cur[io.1]? = c[io.1]? ∧ io.1 < c.length ∧ hasKey st (x, y) io.1) →
      (∀ i, i ∉ alKeys ws → cur[i]? = (applyMerge c (x, y))[i]?) → MidInv (x, y) cur st →
      ∃ ch st', replacePairLoop (x, y) ws cur ch0 = some (applyMerge c (x, y), ch0 ++ ch) ∧
        updateStatsLoop (x, y) ch st = some st' ∧ MidInv (x, y) (applyMerge c (x, y)) st' := by
  intro ws
  induction ws with
  | nil =>
    intro cur ch0 st _ _ hdone hinv
    have hcur : cur = applyMerge c (x, y) := List.ext_getElem? fun i => hdone i List.not_mem_nil
    exact ⟨[], st, by rw [replacePairLoop, hcur, List.append_nil], rfl, hcur ▸ hinv⟩
  | cons e r ih =>
    intro cur ch0 st hnd hws hdone hinv
    obtain ⟨idx, occ⟩ := e
    rw [alKeys_cons, List.nodup_cons] at hnd
    obtain ⟨hocc, hcur, hlt, hk⟩ := hws (idx, occ) List.mem_cons_self
    simp only at hocc hcur hlt hk
    have hws' := fun io hio => hws io (List.mem_cons_of_mem _ hio)
    rw [replacePairLoop]
    by_cases ho : occ < 1
    · rw [if_pos ho]
      refine ih cur ch0 st hnd.2 hws' (fun i hi => ?_) hinv
      by_cases hi' : i = idx
      · rw [hi', hcur, applyMerge_getElem?_of_wcount_zero x y hy c idx (by omega)]
      · exact hdone i fun hm => (List.mem_cons.mp hm).elim hi' hi
    · obtain ⟨⟨w, f⟩, hw⟩ : ∃ e, c[idx]? = some e := ⟨_, List.getElem?_eq_getElem hlt⟩
      rw [hw] at hcur
      obtain ⟨st1, e1, hm, hkk⟩ := change_step x y hx hy cur st idx w f hinv hcur (hfresh _ (List.mem_of_getElem? hw)) hk
      have hne : ∀ i ∈ alKeys r, idx ≠ i := fun i hi hh => hnd.1 (hh ▸ hi)
      obtain ⟨ch, st', h1, h2, h3⟩ := ih (cur.set idx (rep x y w, f)) (ch0 ++ [(idx, w, rep x y w, f)]) _ hnd.2
        (fun io hio =>
          have ⟨g1, g2, g3, g4⟩ := hws' io hio
          ⟨g1, by rw [List.getElem?_set_ne (hne _ (List.mem_map_of_mem hio)), g2], g3, hkk _ _ g4⟩)
        (fun i hi => by
          by_cases hi' : idx = i
          · rw [← hi', List.getElem?_set_self (List.getElem?_eq_some_iff.mp hcur).1, applyMerge_getElem?, hw]
            simp only [Option.map_some, replacePairInWord_eq_rep w x y hy]
          · rw [List.getElem?_set_ne hi']
            exact hdone i fun hm => (List.mem_cons.mp hm).elim (fun h => hi' h.symm) hi)
        hm
      refine ⟨(idx, w, rep x y w, f) :: ch, st', ?_, ?_, h3⟩
      · rw [if_neg ho, hcur]
        simp only [replacePairInWord_eq_rep w x y hy]
        rw [h1, List.append_assoc]
        rfl
      · rw [updateStatsLoop]
        simp only []
        rw [oldLoop_top, e1]
        simp only []
        rw [newLoop_top]
        exact h2

theorem trainStep_ok (c : Corpus) (st : Stats) (p : BPair) (h : StatsOk c st) (hp : 0 < pairFreq c p)
    (hne : ∀ e ∈ c, ∀ t ∈ e.1, t ≠ []) (hfresh : ∀ e ∈ c, (p.1 ++ p.2) ∉ e.1) :
    ∃ st', trainStep (c, st) p = some (applyMerge c p, st') ∧ StatsOk (applyMerge c p) st' := by
  obtain ⟨x, y⟩ := p
  simp only at hfresh
  obtain ⟨hx, hy⟩ : x ≠ [] ∧ y ≠ [] := pair_nonempty c (x, y) hne hp
  obtain ⟨info, hg⟩ := alGet_of_freq_pos st (x, y) (by rw [(h.2 (x, y)).1]; exact hp)
  obtain ⟨hnd, hbound⟩ := h.1.2 (x, y) info hg
  obtain ⟨hmid, hkeys⟩ := zero_ok (x, y) c st h
  have hent : entry st (x, y) = info := by unfold entry; rw [hg]; rfl
  have hocc : ∀ i, (alGet info.2 i).getD 0 = wcount c i (x, y) := fun i => by rw [← (h.2 (x, y)).2 i, occOf_eq, hent]
  obtain ⟨ch, st', h1, h2, hmid'⟩ := pairLoops_ok x y hx hy c hfresh info.2 c [] _ hnd
    (fun io hio => ⟨by rw [← hocc, alGet_of_mem info.2 hnd io hio]; rfl, rfl, hbound _ (List.mem_map_of_mem hio),
      hkeys _ (by rw [hent]; exact List.mem_map_of_mem hio)⟩)
    (fun i hi => by
      -- no counter for word `i`: the pair does not occur in it
      refine (applyMerge_getElem?_of_wcount_zero x y hy c i ?_).symm
      rw [← hocc]
      cases hgi : alGet info.2 i with
      | none => rfl
      | some v => exact absurd ((alGet_isSome_iff _ i).mp ⟨v, hgi⟩) hi)
    hmid
  refine ⟨st', ?_, hmid'.wf, fun q => ?_⟩
  · have hupd : updateStats st (x, y) ch = some st' := by unfold updateStats; rw [hg]; exact h2
    unfold trainStep replacePair
    simp only [hg, h1, List.nil_append, hupd]
  · by_cases hq : q = (x, y)
    · subst hq
      refine ⟨?_, fun i => ?_⟩
      · rw [hmid'.self.1, pairFreq_applyMerge_self x y hx hy]
      · rw [hmid'.self.2, wcount_applyMerge_self x y hx hy]
    · exact hmid'.other q hq

end Tu.BpeTrainIncL

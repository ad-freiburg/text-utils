/-
  C15 — `corrupt::edit_word` changes a word by at most one edit of an enabled kind, never alters a
  protected (excluded) character, and returns an exclusion set that stays inside the new word.
  Model: `Tu.outcomes` / `Tu.editWord` (Model/Corrupt.lean); lemmas in Lemmas/CorruptL.lean.

  Deviation: `editWord c word excl c1 c2 ∈ outcomes c word excl` is FALSE when a context-table entry carries
  no edit string (the chosen kind then has no outcome; the Rust code panics in `sample_edit`:
  `WeightedIndex::new(&[])` → `expect("invalid weights")`), see `cexCfg`. It is proved under `TablesNonempty c`
  (`editWord_mem_outcomes_partial`) and unconditionally as `editWord_mem_outcomes_or_unchanged`.
-/
import TuModel.Lemmas.CorruptL
namespace Tu.C15
open Tu

theorem normExcl_eq : normExcl = normExclS := funext normExcl_eq_normExclS

/-- evaluate a closed `kindOutcomes` instance (what `unfold outcomes` / `unfold editWord` leaves) in the kernel:
`normExcl` sorts with `List.mergeSort`, well-founded recursion that is stuck in the kernel, so its occurrences are
made visible and rewritten to the structurally recursive `normExclS` first -/
macro "corrupt_decide" : tactic =>
  `(tactic| (unfold kindOutcomes applyInsert applyDelete applyReplace applySwap
             rw [normExcl_eq]
             decide +kernel))

inductive OneEdit (c : EditCfg) (word : List Cl) : List Cl → Prop
  | ins (idx : Nat) (e : List Cl) : c.insert.isSome → idx ≤ word.length → OneEdit c word (word.take idx ++ e ++ word.drop idx)
  | del (idx : Nat) : c.delete.isSome → idx < word.length → OneEdit c word (word.take idx ++ word.drop (idx + 1))
  | rep (idx : Nat) (e : List Cl) : c.replace.isSome → idx < word.length → OneEdit c word (word.take idx ++ e ++ word.drop (idx + 1))
  | swp (idx : Nat) : c.swap = true → idx + 1 < word.length →
      OneEdit c word (word.take idx ++ word.getD (idx + 1) [] :: word.getD idx [] :: word.drop (idx + 2))

/-- every listed outcome is the unchanged word with the normalised exclusion set, or the result of one
admissible edit (edited positions not excluded) of an enabled kind -/
theorem outcomes_cases {c : EditCfg} {word : List Cl} {excl : List Nat} {r : List Cl × List Nat}
    (h : r ∈ outcomes c word excl) :
    r = (word, normExcl excl) ∨
    (∃ idx e, c.insert.isSome ∧ idx ≤ word.length ∧ idx ∉ excl ∧ (0 < idx → idx - 1 ∉ excl) ∧
      r = applyInsert word excl idx e) ∨
    (∃ idx, c.delete.isSome ∧ idx < word.length ∧ idx ∉ excl ∧ r = applyDelete word excl idx) ∨
    (∃ idx e, c.replace.isSome ∧ idx < word.length ∧ idx ∉ excl ∧ r = applyReplace word excl idx e) ∨
    (∃ idx, c.swap = true ∧ idx + 1 < word.length ∧ idx ∉ excl ∧ idx + 1 ∉ excl ∧ r = applySwap word excl idx) := by
  rcases mem_outcomes.1 h with ⟨_, h⟩ | ⟨kind, hk, hr⟩
  · exact Or.inl h
  · have hk := mem_kinds.1 hk
    cases kind with
    | ins => exact (mem_kindOutcomes_ins hr).imp_right fun h => .inl (h.imp fun _ h => h.imp fun _ h => ⟨hk, h⟩)
    | del => exact (mem_kindOutcomes_del hr).imp_right fun h => .inr (.inl (h.imp fun _ h => ⟨hk, h⟩))
    | rep =>
      exact (mem_kindOutcomes_rep hr).imp_right fun h => .inr (.inr (.inl (h.imp fun _ h => h.imp fun _ h => ⟨hk, h⟩)))
    | swp => exact (mem_kindOutcomes_swp hr).imp_right fun h => .inr (.inr (.inr (h.imp fun _ h => ⟨hk, h⟩)))

/-- **unchanged or exactly one edit of an enabled kind**, for every word, configuration, exclusion set
and every random stream -/
theorem outcomes_unchanged_or_one (c : EditCfg) (word : List Cl) (excl : List Nat) (r : List Cl × List Nat)
    (h : r ∈ outcomes c word excl) : r.1 = word ∨ OneEdit c word r.1 := by
  rcases outcomes_cases h with rfl | ⟨idx, e, hc, h1, _, _, rfl⟩ | ⟨idx, hc, h1, _, rfl⟩ |
    ⟨idx, e, hc, h1, _, rfl⟩ | ⟨idx, hc, h1, _, _, rfl⟩
  · exact Or.inl rfl
  · exact Or.inr (.ins idx e hc h1)
  · exact Or.inr (.del idx hc h1)
  · exact Or.inr (.rep idx e hc h1)
  · exact Or.inr (.swp idx hc h1)

/-- COUNTEREXAMPLE to the unconditional `editWord_mem_outcomes`: an insert table whose only entry (context
`(<bow>, <eow>)`, i.e. the empty word) has NO edit strings.  `outcomes` is empty, the model's `editWord`
falls back to the unchanged word (the Rust code panics in `sample_edit`). -/
def cexCfg : EditCfg := { insert := some [((bow, eow), [])], delete := none, replace := none, swap := false, frozen := [] }

example : outcomes cexCfg [] [] = [] := by decide +kernel
example : editWord cexCfg [] [] 0 0 = ([], []) := by
  unfold editWord
  corrupt_decide
example : ¬ (editWord cexCfg [] [] 0 0 ∈ outcomes cexCfg [] []) := by decide +kernel
example : ¬ TablesNonempty cexCfg := by
  intro h; exact h.1 _ rfl ((bow, eow), []) (by simp) rfl

/-- unconditional form: a listed outcome, or — only if some enabled kind has no outcome at all — the
unchanged word -/
theorem editWord_mem_outcomes_or_unchanged (c : EditCfg) (word : List Cl) (excl : List Nat) (c1 c2 : Nat) :
    editWord c word excl c1 c2 ∈ outcomes c word excl ∨
    (editWord c word excl c1 c2 = (word, normExcl excl) ∧ ∃ kind ∈ c.kinds, kindOutcomes c word excl kind = []) := by
  match hk : c.kinds with
  | [] => exact Or.inl (mem_outcomes.2 (Or.inl ⟨hk, editWord_nil hk c1 c2⟩))
  | k :: ks =>
    rw [editWord_cons hk]
    have hkind := getD_mod_mem (hk ▸ List.cons_ne_nil k ks) c1 k
    generalize c.kinds.getD (c1 % c.kinds.length) k = kind at hkind ⊢
    by_cases hne : kindOutcomes c word excl kind = []
    · exact Or.inr ⟨by rw [hne]; rfl, kind, hk ▸ hkind, hne⟩
    · exact Or.inl (mem_outcomes.2 (Or.inr ⟨kind, hkind, getD_mod_mem hne c2 _⟩))

/-- the choice-parametric function only produces listed outcomes (tables without empty entries) -/
theorem editWord_mem_outcomes_partial (c : EditCfg) (hc : TablesNonempty c) (word : List Cl) (excl : List Nat)
    (c1 c2 : Nat) : editWord c word excl c1 c2 ∈ outcomes c word excl := by
  rcases editWord_mem_outcomes_or_unchanged c word excl c1 c2 with h | ⟨_, kind, _, hnil⟩
  · exact h
  · exact absurd hnil (kindOutcomes_ne_nil hc word excl kind)

/-- every listed outcome is produced by some draws -/
theorem outcomes_complete (c : EditCfg) (word : List Cl) (excl : List Nat) (r : List Cl × List Nat)
    (h : r ∈ outcomes c word excl) : ∃ c1 c2, editWord c word excl c1 c2 = r := by
  rcases mem_outcomes.1 h with ⟨hk, rfl⟩ | ⟨kind, hkind, hr⟩
  · exact ⟨0, 0, editWord_nil hk 0 0⟩
  · obtain ⟨k, ks, hk⟩ := List.exists_cons_of_ne_nil (List.ne_nil_of_mem hkind)
    obtain ⟨c1, rfl⟩ := exists_getD_mod hkind k
    obtain ⟨c2, rfl⟩ := exists_getD_mod hr (word, normExcl excl)
    exact ⟨c1, c2, editWord_cons hk c1 c2⟩

theorem outcomes_kept {c : EditCfg} {word : List Cl} {excl : List Nat} {r : List Cl × List Nat}
    (h : r ∈ outcomes c word excl) : Kept word excl r := by
  rcases outcomes_cases h with rfl | ⟨idx, e, _, h1, _, _, rfl⟩ | ⟨idx, _, h1, h2, rfl⟩ |
    ⟨idx, e, _, h1, h2, rfl⟩ | ⟨idx, _, h1, h2, h3, rfl⟩
  · exact Kept.refl word excl
  · rw [applyInsert_eq]
    exact kept_splice h1 fun _ _ h => h
  · rw [applyDelete_eq]
    exact kept_splice h1 fun i hi h => Nat.lt_of_le_of_ne h fun e => h2 (e ▸ hi)
  · rw [applyReplace_eq]
    exact kept_splice h1 fun i hi h => Nat.lt_of_le_of_ne h fun e => h2 (e ▸ hi)
  · rw [applySwap_eq]
    exact kept_splice h1 fun i hi h =>
      Nat.lt_of_le_of_ne (Nat.lt_of_le_of_ne h fun e => h2 (e ▸ hi)) fun e => h3 (e ▸ hi)

theorem editWord_kept (c : EditCfg) (word : List Cl) (excl : List Nat) (c1 c2 : Nat) :
    Kept word excl (editWord c word excl c1 c2) := by
  rcases editWord_mem_outcomes_or_unchanged c word excl c1 c2 with h | ⟨h, _⟩
  · exact outcomes_kept h
  · exact h ▸ Kept.refl word excl

theorem chain_kept (c : EditCfg) (steps : List (Nat × Nat)) : ∀ st : List Cl × List Nat,
    Kept st.1 st.2 (steps.foldl (fun st d => editWord c st.1 st.2 d.1 d.2) st) := by
  induction steps with
  | nil => exact fun st => ⟨fun h => h, fun i hi => ⟨i, hi, rfl⟩⟩
  | cons d rest ih => exact fun st => (editWord_kept c st.1 st.2 d.1 d.2).trans (ih _)

/-- **the returned exclusion set stays inside the new word** -/
theorem outcomes_excl_bound (c : EditCfg) (word : List Cl) (excl : List Nat) (hex : ∀ i ∈ excl, i < word.length)
    (r : List Cl × List Nat) (h : r ∈ outcomes c word excl) : ∀ j ∈ r.2, j < r.1.length :=
  (outcomes_kept h).1 hex

/-- **protected characters are never altered** (headline form, with the bound hypothesis as stated in the claim) -/
theorem outcomes_protected (c : EditCfg) (word : List Cl) (excl : List Nat) (_hex : ∀ i ∈ excl, i < word.length)
    (r : List Cl × List Nat) (h : r ∈ outcomes c word excl) :
    ∀ i ∈ excl, ∃ j, j ∈ r.2 ∧ r.1[j]? = word[i]? :=
  (outcomes_kept h).2

/-- with the bound: the re-indexed position really holds a character (`some`), the same as before -/
theorem outcomes_protected_some (c : EditCfg) (word : List Cl) (excl : List Nat) (hex : ∀ i ∈ excl, i < word.length)
    (r : List Cl × List Nat) (h : r ∈ outcomes c word excl) :
    ∀ i (hi : i ∈ excl), ∃ j, j ∈ r.2 ∧ r.1[j]? = some (word[i]'(hex i hi)) := by
  intro i hi
  obtain ⟨j, hj, he⟩ := (outcomes_kept h).2 i hi
  exact ⟨j, hj, by rw [he, List.getElem?_eq_getElem (hex i hi)]⟩

/-- one step of `editWord` (no assumption on the tables) never alters a protected character -/
theorem editWord_protected (c : EditCfg) (word : List Cl) (excl : List Nat) (c1 c2 : Nat) :
    ∀ i ∈ excl, ∃ j, j ∈ (editWord c word excl c1 c2).2 ∧ (editWord c word excl c1 c2).1[j]? = word[i]? :=
  (editWord_kept c word excl c1 c2).2

/-- the invariants compose over chains of repeated edits with the returned set (as `corrupt_spelling` does) -/
theorem chain_excl_bound (c : EditCfg) : ∀ (steps : List (Nat × Nat)) (word : List Cl) (excl : List Nat),
    (∀ i ∈ excl, i < word.length) →
    let r := steps.foldl (fun (st : List Cl × List Nat) d => editWord c st.1 st.2 d.1 d.2) (word, excl)
    ∀ j ∈ r.2, j < r.1.length :=
  fun steps word excl => (chain_kept c steps (word, excl)).1

/-! ### non-vacuity -/

/-- insert table keyed by `(<bow>, 'a')`, delete, replace table keyed by `(<bow>, 'a', 'b')`, swap -/
def exCfg : EditCfg :=
  { insert := some [((bow, [97]), [[[120]], [[121], [122]]])], delete := some false,
    replace := some [((bow, [97], [98]), [[], [[120], [121]]])], swap := true, frozen := [99] }

example : TablesNonempty exCfg := by
  refine ⟨?_, ?_⟩ <;> intro t ht en hen <;> cases ht <;> simp at hen <;> subst hen <;> simp

example : outcomes { exCfg with delete := none, replace := none, swap := false } [[97], [98]] [] =
    [([[120], [97], [98]], [0]), ([[121], [122], [97], [98]], [0, 1])] := by
  unfold outcomes
  corrupt_decide
example : outcomes { exCfg with delete := none, replace := none, swap := false } [[97], [98]] [0] =
    [([[97], [98]], [0])] := by
  unfold outcomes
  corrupt_decide
example : outcomes { exCfg with insert := none, replace := none, swap := false } [[97], [98], [99]] [1] =
    [([[98], [99]], [0])] := by
  unfold outcomes
  corrupt_decide
example : outcomes { exCfg with insert := none, delete := none, swap := false } [[97], [98], [100]] [2] =
    [([[98], [100]], [1]), ([[120], [121], [98], [100]], [0, 1, 3])] := by
  unfold outcomes
  corrupt_decide
example : outcomes { exCfg with insert := none, delete := none, replace := none } [[97], [98], [100]] [2] =
    [([[98], [97], [100]], [0, 1, 2])] := by
  unfold outcomes
  corrupt_decide
example : (outcomes exCfg [[97], [98], [100]] [2]).length = 7 := by
  unfold outcomes
  corrupt_decide
example : editWord exCfg [[97], [98], [100]] [2] 3 0 = ([[98], [97], [100]], [0, 1, 2]) := by
  unfold editWord
  corrupt_decide
example : OneEdit exCfg [[97], [98], [100]] [[98], [97], [100]] := OneEdit.swp 0 rfl (by decide)

end Tu.C15

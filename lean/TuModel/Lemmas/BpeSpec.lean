/-
  BPE, specification side (`bestPair`, `mergeAt`, `specLoop` of Model/Bpe.lean): `bestPair` returns
  the least mergeable position in the order (merge id, position), or nothing when no position is
  mergeable (`bestPair_spec`); `specLoop` ends in a list without mergeable pair and keeps the
  concatenation.
-/
import TuModel.Model.Bpe
namespace Tu

def Mergeable (t : MTable) (toks : List (List Nat)) (k m : Nat) : Prop :=
  k + 1 < toks.length ∧ tlookup t (toks.getD k [] ++ toks.getD (k + 1) []) = some m

theorem mergeable_zero {t : MTable} {a b : List Nat} {r : List (List Nat)} {m : Nat} :
    Mergeable t (a :: b :: r) 0 m ↔ tlookup t (a ++ b) = some m := by
  simp [Mergeable]

theorem mergeable_succ {t : MTable} {a : List Nat} {l : List (List Nat)} {k m : Nat} :
    Mergeable t (a :: l) (k + 1) m ↔ Mergeable t l k m := by
  simp [Mergeable]

theorem mergeable_append {t : MTable} (L R : List (List Nat)) (x y : List Nat) (m : Nat) :
    Mergeable t (L ++ x :: y :: R) L.length m ↔ tlookup t (x ++ y) = some m := by
  induction L with
  | nil => exact mergeable_zero
  | cons a L ih => exact mergeable_succ.trans ih

def Least (t : MTable) (toks : List (List Nat)) (k m : Nat) : Prop :=
  Mergeable t toks k m ∧ ∀ k' m', Mergeable t toks k' m' → m < m' ∨ (m = m' ∧ k ≤ k')

theorem Least.unique {t : MTable} {toks : List (List Nat)} {k m k' m' : Nat}
    (h : Least t toks k m) (h' : Least t toks k' m') : m = m' ∧ k = k' := by
  have := h.2 _ _ h'.1
  have := h'.2 _ _ h.1
  omega

theorem bestPair_nil (t : MTable) (c : Nat) : bestPair t [] c = none := by
  simp [bestPair]

theorem bestPair_single (t : MTable) (a : List Nat) (c : Nat) : bestPair t [a] c = none := by
  simp [bestPair]

theorem bestPair_cons2 (t : MTable) (a b : List Nat) (rest : List (List Nat)) (c : Nat) :
    bestPair t (a :: b :: rest) c =
      match tlookup t (a ++ b) with
      | some m => match bestPair t (b :: rest) (c + 1) with
        | some (m', i') => if m' < m then some (m', i') else some (m, c)
        | none => some (m, c)
      | none => bestPair t (b :: rest) (c + 1) := by
  rw [bestPair]
  cases tlookup t (a ++ b) with
  | none => rfl
  | some m =>
    cases bestPair t (b :: rest) (c + 1) with
    | none => rfl
    | some r => rfl

/-- `≤` here and `<` in `Least.tail`: ties go to the left, as `bestPair` replaces the head pair only
by a strictly smaller id -/
theorem Least.head {t : MTable} {a b : List Nat} {rest : List (List Nat)} {m0 : Nat}
    (hl : tlookup t (a ++ b) = some m0) (h : ∀ k m, Mergeable t (b :: rest) k m → m0 ≤ m) :
    Least t (a :: b :: rest) 0 m0 :=
  ⟨mergeable_zero.mpr hl, fun k' m' h' => by
    cases k' with
    | zero => rw [mergeable_zero, hl] at h'; have := Option.some.inj h'; omega
    | succ k' => have := h k' m' (mergeable_succ.mp h'); omega⟩

theorem Least.tail {t : MTable} {a b : List Nat} {rest : List (List Nat)} {k m : Nat}
    (hk : Least t (b :: rest) k m) (h : ∀ m0, tlookup t (a ++ b) = some m0 → m < m0) :
    Least t (a :: b :: rest) (k + 1) m :=
  ⟨mergeable_succ.mpr hk.1, fun k' m' h' => by
    cases k' with
    | zero => have := h m' (mergeable_zero.mp h'); omega
    | succ k' => have := hk.2 k' m' (mergeable_succ.mp h'); omega⟩

theorem bestPair_spec (t : MTable) : ∀ (toks : List (List Nat)) (c : Nat),
    match bestPair t toks c with
    | none => ∀ k m, ¬ Mergeable t toks k m
    | some (m, p) => ∃ k, p = c + k ∧ Least t toks k m
  | [], c => by
    rw [bestPair_nil]
    exact fun k m h => Nat.not_lt_zero _ h.1
  | [a], c => by
    rw [bestPair_single]
    exact fun k m h => Nat.not_lt_zero _ (Nat.lt_of_succ_lt_succ h.1)
  | a :: b :: rest, c => by
    have ih := bestPair_spec t (b :: rest) (c + 1)
    rw [bestPair_cons2]
    cases hl : tlookup t (a ++ b) with
    | none =>
      cases hr : bestPair t (b :: rest) (c + 1) with
      | none =>
        rw [hr] at ih
        intro k m h
        cases k with
        | zero => rw [mergeable_zero, hl] at h; cases h
        | succ k => exact ih k m (mergeable_succ.mp h)
      | some r =>
        rw [hr] at ih
        obtain ⟨k, hp, hk⟩ := ih
        exact ⟨k + 1, by omega, hk.tail fun m0 h => by rw [hl] at h; cases h⟩
    | some m0 =>
      cases hr : bestPair t (b :: rest) (c + 1) with
      | none =>
        rw [hr] at ih
        exact ⟨0, rfl, Least.head hl fun k m h => absurd h (ih k m)⟩
      | some r =>
        rw [hr] at ih
        obtain ⟨k, hp, hk⟩ := ih
        dsimp only
        by_cases hlt : r.1 < m0
        · rw [if_pos hlt]
          exact ⟨k + 1, by omega, hk.tail fun m h => by rw [hl] at h; cases h; exact hlt⟩
        · rw [if_neg hlt]
          exact ⟨0, rfl, Least.head hl fun k' m h => by have := hk.2 k' m h; omega⟩

theorem bestPair_eq_some_iff (t : MTable) (toks : List (List Nat)) (m k : Nat) :
    bestPair t toks 0 = some (m, k) ↔ Least t toks k m := by
  have := bestPair_spec t toks 0
  simp only [Nat.zero_add, exists_eq_left'] at this
  constructor
  · intro h; rw [h] at this; exact this
  · intro hk
    cases hb : bestPair t toks 0 with
    | none => rw [hb] at this; exact absurd hk.1 (this k m)
    | some r =>
      rw [hb] at this
      obtain ⟨rfl, rfl⟩ := hk.unique this
      rfl

theorem bestPair_eq_none_iff (t : MTable) (toks : List (List Nat)) (c : Nat) :
    bestPair t toks c = none ↔ ∀ k m, ¬ Mergeable t toks k m := by
  have := bestPair_spec t toks c
  constructor
  · intro h; rw [h] at this; exact this
  · intro h
    cases hb : bestPair t toks c with
    | none => rfl
    | some r =>
      rw [hb] at this
      obtain ⟨k, _, hk, _⟩ := this
      exact absurd hk (h k r.1)

theorem mergeAt_length : ∀ (toks : List (List Nat)) (k : Nat), k + 1 < toks.length →
    (mergeAt toks k).length + 1 = toks.length
  | [], _, h => absurd h (Nat.not_lt_zero _)
  | [_], _, h => absurd (Nat.lt_of_succ_lt_succ h) (Nat.not_lt_zero _)
  | _ :: _ :: _, 0, _ => rfl
  | _ :: b :: rest, k + 1, h => congrArg (· + 1) (mergeAt_length (b :: rest) k (Nat.lt_of_succ_lt_succ h))

theorem mergeAt_flatten (toks : List (List Nat)) (k : Nat) : (mergeAt toks k).flatten = toks.flatten := by
  fun_induction mergeAt toks k with
  | case1 => simp
  | case2 a rest i ih => simp [ih]
  | case3 => rfl

theorem mergeAt_append (L R : List (List Nat)) (x y : List Nat) :
    mergeAt (L ++ x :: y :: R) L.length = L ++ (x ++ y) :: R := by
  induction L with
  | nil => simp [mergeAt]
  | cons a L ih => simp [mergeAt, ih]

theorem specLoop_of_none (t : MTable) (F : Nat) (toks : List (List Nat)) (h : bestPair t toks 0 = none) :
    specLoop t F toks = toks := by
  cases F with
  | zero => rfl
  | succ F => simp [specLoop, h]

theorem specLoop_of_some (t : MTable) (F : Nat) (toks : List (List Nat)) (m k : Nat)
    (h : bestPair t toks 0 = some (m, k)) :
    specLoop t (F + 1) toks = specLoop t F (mergeAt toks k) := by
  simp [specLoop, h]

theorem specLoop_terminal_aux (t : MTable) : ∀ (F : Nat) (toks : List (List Nat)), toks.length ≤ F + 1 →
    bestPair t (specLoop t F toks) 0 = none
  | 0, toks, h => (bestPair_eq_none_iff ..).mpr fun k m hk => by
    have : k + 1 < toks.length := hk.1
    omega
  | F + 1, toks, h => by
    cases hb : bestPair t toks 0 with
    | none => rw [specLoop_of_none t _ _ hb]; exact hb
    | some r =>
      rw [specLoop_of_some t F toks r.1 r.2 hb]
      have := mergeAt_length toks r.2 ((bestPair_eq_some_iff ..).mp hb).1.1
      exact specLoop_terminal_aux t F _ (by omega)

theorem specLoop_flatten (t : MTable) : ∀ (F : Nat) (toks : List (List Nat)),
    (specLoop t F toks).flatten = toks.flatten
  | 0, toks => rfl
  | F + 1, toks => by
    cases hb : bestPair t toks 0 with
    | none => rw [specLoop_of_none t _ _ hb]
    | some r => rw [specLoop_of_some t F toks r.1 r.2 hb, specLoop_flatten t F, mergeAt_flatten]

end Tu

/-
  Lemmas about the model of `find_substring_ignoring_whitespace` (Model/FindSub.lean).  Everything is said by
  splitting the string (`s = l ++ t`), not by positions: the white-space run, one step of the matcher in both
  directions, what the matcher returns (`matchLits_some`), the language of the pattern `PatInst`, the search loop.
-/
import TuModel.Model.FindSub
namespace Tu

def nonWs (l : List Nat) : List Nat := l.filter (fun c => !isWsCp c)

theorem nonWs_append (a b : List Nat) : nonWs (a ++ b) = nonWs a ++ nonWs b := List.filter_append ..

theorem nonWs_of_all_nws (l : List Nat) (h : ∀ x ∈ l, isWsCp x = false) : nonWs l = l :=
  List.filter_eq_self.mpr fun x hx => by rw [h x hx]; rfl

theorem nonWs_of_all_ws {l : List Nat} (h : ∀ x ∈ l, isWsCp x = true) : nonWs l = [] :=
  List.filter_eq_nil_iff.mpr fun x hx => by rw [h x hx]; exact Bool.false_ne_true

theorem wsRun_nil : wsRun [] = 0 := rfl

theorem wsRun_cons_ws (c : Nat) (l : List Nat) (h : isWsCp c = true) : wsRun (c :: l) = wsRun l + 1 := by
  rw [wsRun, List.takeWhile_cons_of_pos h]; rfl

theorem wsRun_cons_nws (c : Nat) (l : List Nat) (h : isWsCp c = false) : wsRun (c :: l) = 0 := by
  rw [wsRun, List.takeWhile_cons_of_neg (Bool.eq_false_iff.mp h)]; rfl

theorem wsRun_split (s : List Nat) : ∃ w t, s = w ++ t ∧ w.length = wsRun s ∧ (∀ x ∈ w, isWsCp x = true) ∧
    ∀ x ∈ t.head?, isWsCp x = false := by
  refine ⟨s.takeWhile isWsCp, s.dropWhile isWsCp, List.takeWhile_append_dropWhile.symm, rfl,
    List.all_eq_true.mp List.all_takeWhile, fun x hx => ?_⟩
  have := List.head?_dropWhile_not isWsCp s
  rw [Option.mem_def.mp hx] at this
  exact this

/-- what the `\s*` in front of a literal may take (`k = wsRun s, …, 0`): the white-space prefixes of `s` -/
theorem le_wsRun_iff {s : List Nat} {k : Nat} :
    k ≤ wsRun s ↔ ∃ w t, s = w ++ t ∧ w.length = k ∧ ∀ x ∈ w, isWsCp x = true := by
  constructor
  · intro h
    obtain ⟨w, t, rfl, hl, hw, _⟩ := wsRun_split s
    rw [← hl] at h
    exact ⟨w.take k, w.drop k ++ t, by rw [← List.append_assoc, List.take_append_drop],
      List.length_take_of_le h, fun x hx => hw x (List.mem_of_mem_take hx)⟩
  · rintro ⟨w, t, rfl, rfl, hw⟩
    induction w with
    | nil => exact Nat.zero_le _
    | cons x w ih =>
      rw [List.cons_append, wsRun_cons_ws _ _ (hw x List.mem_cons_self)]
      exact Nat.succ_le_succ (ih fun y hy => hw y (List.mem_cons_of_mem _ hy))

theorem matchLits_nil (s : List Nat) : matchLits [] s = some (wsRun s) := by rw [matchLits]

theorem matchLits_cons (c : List Nat) (cs : List (List Nat)) (s : List Nat) :
    matchLits (c :: cs) s =
      ((List.range (wsRun s + 1)).reverse).findSome? (fun k =>
        if litAt c (s.drop k) then (matchLits cs (s.drop (k + c.length))).map (fun r => k + c.length + r)
        else none) := by
  rw [matchLits]

theorem litAt_iff {c s : List Nat} : litAt c s = true ↔ ∃ r, c ++ r = s := List.isPrefixOf_iff_prefix

theorem matchLits_cons_some {c : List Nat} {cs : List (List Nat)} {s : List Nat} {n : Nat}
    (h : matchLits (c :: cs) s = some n) :
    ∃ w r m, s = w ++ (c ++ r) ∧ (∀ x ∈ w, isWsCp x = true) ∧ matchLits cs r = some m ∧
      n = w.length + c.length + m := by
  rw [matchLits] at h
  obtain ⟨k, hk, hf⟩ := List.exists_of_findSome?_eq_some h
  rw [List.mem_reverse, List.mem_range, Nat.lt_succ_iff] at hk
  obtain ⟨w, t, rfl, rfl, hw⟩ := le_wsRun_iff.mp hk
  rw [← List.drop_drop, List.drop_left] at hf
  split at hf
  · rename_i hl
    obtain ⟨r, rfl⟩ := litAt_iff.mp hl
    rw [List.drop_left] at hf
    obtain ⟨m, hm, rfl⟩ := Option.map_eq_some_iff.mp hf
    exact ⟨w, r, m, rfl, hw, hm, rfl⟩
  · cases hf

/-- every split of the white space after which the rest matches makes the whole pattern match -/
theorem matchLits_cons_isSome {c : List Nat} {cs : List (List Nat)} {w r : List Nat}
    (hw : ∀ x ∈ w, isWsCp x = true) (hr : (matchLits cs r).isSome = true) :
    (matchLits (c :: cs) (w ++ (c ++ r))).isSome = true := by
  rw [matchLits, List.findSome?_isSome_iff]
  refine ⟨w.length, ?_, ?_⟩
  · rw [List.mem_reverse, List.mem_range, Nat.lt_succ_iff]; exact le_wsRun_iff.mpr ⟨w, _, rfl, rfl, hw⟩
  · rw [List.drop_left, litAt_iff.mpr ⟨r, rfl⟩, if_pos rfl,
      ← List.drop_drop, List.drop_left, List.drop_left, Option.isSome_map]
    exact hr

/-- `l` is an instance of `\s* c1 \s* c2 ... \s* cn \s*`: white space, then each literal followed by white space -/
def PatInst : List (List Nat) → List Nat → Prop
  | [], l => ∀ x ∈ l, isWsCp x = true
  | c :: cs, l => ∃ w r, (∀ x ∈ w, isWsCp x = true) ∧ l = w ++ (c ++ r) ∧ PatInst cs r

/-- what the matcher returns: `s` begins with an instance of the pattern of that length, and what follows does
not begin with white space (the last `\s*` is greedy) -/
theorem matchLits_some {lits : List (List Nat)} {s : List Nat} {n : Nat} (h : matchLits lits s = some n) :
    ∃ l t, s = l ++ t ∧ l.length = n ∧ PatInst lits l ∧ ∀ x ∈ t.head?, isWsCp x = false := by
  induction lits generalizing s n with
  | nil =>
    rw [matchLits_nil] at h
    obtain ⟨w, t, hs, hl, hw, ht⟩ := wsRun_split s
    exact ⟨w, t, hs, hl.trans (Option.some.inj h), hw, ht⟩
  | cons c cs ih =>
    obtain ⟨w, r, m, rfl, hw, hm, rfl⟩ := matchLits_cons_some h
    obtain ⟨l, t, rfl, rfl, hp, ht⟩ := ih hm
    refine ⟨w ++ (c ++ l), t, by simp only [List.append_assoc], ?_, ⟨w, l, hw, rfl, hp⟩, ht⟩
    simp only [List.length_append, Nat.add_assoc]

theorem matchLits_of_patInst {lits : List (List Nat)} {l : List Nat} (t : List Nat) (h : PatInst lits l) :
    (matchLits lits (l ++ t)).isSome = true := by
  induction lits generalizing l with
  | nil => rw [matchLits_nil]; rfl
  | cons c cs ih =>
    obtain ⟨w, r, hw, rfl, hr⟩ := h
    simp only [List.append_assoc]
    exact matchLits_cons_isSome hw (ih hr)

theorem PatInst.nonWs {lits : List (List Nat)} {l : List Nat} (h : PatInst lits l) :
    nonWs l = nonWs lits.flatten := by
  induction lits generalizing l with
  | nil => exact nonWs_of_all_ws h
  | cons c cs ih =>
    obtain ⟨w, r, hw, rfl, hr⟩ := h
    rw [nonWs_append, nonWs_append, nonWs_of_all_ws hw, ih hr, List.flatten_cons, nonWs_append, List.nil_append]

/-- white space in front of a match does not destroy it (the leading `\s*` takes it) -/
theorem matchLits_cons_ws {lits : List (List Nat)} {s : List Nat} {x : Nat} (hx : isWsCp x = true)
    (h : (matchLits lits s).isSome = true) : (matchLits lits (x :: s)).isSome = true := by
  cases lits with
  | nil => rw [matchLits_nil]; rfl
  | cons c cs =>
    obtain ⟨n, hn⟩ := Option.isSome_iff_exists.mp h
    obtain ⟨w, r, m, rfl, hw, hm, _⟩ := matchLits_cons_some hn
    exact matchLits_cons_isSome (w := x :: w) (fun y hy => by
      rcases List.mem_cons.mp hy with rfl | hy
      · exact hx
      · exact hw y hy) (hm ▸ rfl)

theorem patInst_of_nonWs_eq {lits : List (List Nat)} (hl : ∀ c ∈ lits, ∃ x, c = [x] ∧ isWsCp x = false)
    {l : List Nat} (h : nonWs l = lits.flatten) : PatInst lits l := by
  induction lits generalizing l with
  | nil => exact fun x hx => by simpa using List.filter_eq_nil_iff.mp h x hx
  | cons c cs ih =>
    obtain ⟨x, rfl, _⟩ := hl c List.mem_cons_self
    obtain ⟨w, r, rfl, hw, _, hr⟩ := List.filter_eq_cons_iff.mp h
    exact ⟨w, r, fun y hy => by simpa using hw y hy, rfl, ih (fun c hc => hl c (List.mem_cons_of_mem _ hc)) hr⟩

theorem findFrom_zero (lits : List (List Nat)) (s : List Nat) (p : Nat) : findFrom lits s p 0 = none := by
  rw [findFrom]

theorem findFrom_succ_some (lits : List (List Nat)) (s : List Nat) (p fuel len : Nat)
    (h : matchLits lits (s.drop p) = some len) : findFrom lits s p (fuel + 1) = some (p, p + len) := by
  rw [findFrom, h]

theorem findFrom_succ_none (lits : List (List Nat)) (s : List Nat) (p fuel : Nat)
    (h : matchLits lits (s.drop p) = none) :
    findFrom lits s p (fuel + 1) = findFrom lits s (p + 1) fuel := by
  rw [findFrom, h]

theorem findFrom_some {lits : List (List Nat)} {s : List Nat} {fuel p a b : Nat}
    (h : findFrom lits s p fuel = some (a, b)) :
    p ≤ a ∧ a < p + fuel ∧ (∃ len, matchLits lits (s.drop a) = some len ∧ b = a + len) ∧
      ∀ q, p ≤ q → q < a → matchLits lits (s.drop q) = none := by
  induction fuel generalizing p with
  | zero => rw [findFrom] at h; cases h
  | succ fuel ih =>
    rw [findFrom] at h
    split at h
    · rename_i len hm
      cases h
      exact ⟨Nat.le_refl _, Nat.lt_add_of_pos_right (Nat.succ_pos _), ⟨len, hm, rfl⟩,
        fun q h1 h2 => absurd h2 (Nat.not_lt.mpr h1)⟩
    · rename_i hm
      obtain ⟨h1, h2, h3, h4⟩ := ih h
      refine ⟨Nat.le_of_succ_le h1, by omega, h3, fun q hq1 hq2 => ?_⟩
      rcases Nat.eq_or_lt_of_le hq1 with rfl | hq
      · exact hm
      · exact h4 q hq hq2

theorem findFrom_none {lits : List (List Nat)} {s : List Nat} {fuel p : Nat}
    (h : findFrom lits s p fuel = none) :
    ∀ q, p ≤ q → q < p + fuel → matchLits lits (s.drop q) = none := by
  induction fuel generalizing p with
  | zero => exact fun q h1 h2 => absurd h2 (Nat.not_lt.mpr h1)
  | succ fuel ih =>
    rw [findFrom] at h
    split at h
    · cases h
    · rename_i hm
      intro q hq1 hq2
      rcases Nat.eq_or_lt_of_le hq1 with rfl | hq
      · exact hm
      · exact ih h q hq (by omega)

end Tu

/-
  C11 — clean() produces the whitespace normal form; word boundaries match it.
  All statements are about the cluster-level model `Tu.cleanCl` / `Tu.wordBoundaries` / `Tu.removeWsCl` /
  `Tu.fullCl` (Model/Text.lean) and hold for every text.  `Stable s` (trim is the identity on the non-white-space
  clusters) holds in code-point mode and on the property's grapheme-mode domain (`stable_of_unmixed`,
  `unmixed_of_singletons`).
-/
import TuModel.Lemmas.TextL
namespace Tu.C11
open Tu

theorem cleanAux_cleanCh (s : List (List Nat)) (lastWs : Bool) : CleanCh (cleanAux s lastWs true) := by
  induction s generalizing lastWs with
  | nil => exact .nil
  | cons c cs ih =>
    cases hw : isWsCl c
    · rw [cleanAux_cons_nonws cs _ _ hw]
      cases lastWs
      · exact .ch ((isWsCl_trimCl c).trans hw) (ih false)
      · exact .sep ((isWsCl_trimCl c).trans hw) (ih false)
    · rw [cleanAux_cons_ws cs _ _ hw]; exact ih true

theorem cleanAux_CleanB (s : List (List Nat)) (lastWs : Bool) : CleanB (cleanAux s lastWs false) = true := by
  induction s generalizing lastWs with
  | nil => rfl
  | cons c cs ih =>
    cases hw : isWsCl c
    · rw [cleanAux_cons_nonws cs _ _ hw, Bool.and_false]
      exact CleanB_cons.mpr ⟨(isWsCl_trimCl c).trans hw, cleanAux_cleanCh cs false⟩
    · rw [cleanAux_cons_ws cs _ _ hw]; exact ih true

/-- `clean(s)` has no leading, trailing or consecutive whitespace and uses only single spaces. -/
theorem clean_Clean (s : List (List Nat)) : CleanB (cleanCl s) = true := cleanAux_CleanB s false

theorem cleanAux_nonws (s : List (List Nat)) (lastWs ne : Bool) :
    removeWsCl (cleanAux s lastWs ne) = (removeWsCl s).map trimCl := by
  induction s generalizing lastWs ne with
  | nil => rfl
  | cons c cs ih =>
    cases hw : isWsCl c
    · have ht := (isWsCl_trimCl c).trans hw
      rw [cleanAux_cons_nonws cs _ _ hw, removeWsCl_cons_nonws hw, List.map_cons, ← ih false true]
      split
      · rw [List.singleton_append, removeWsCl_sp_cons, removeWsCl_cons_nonws ht]
      · rw [List.nil_append, removeWsCl_cons_nonws ht]
    · rw [cleanAux_cons_ws cs _ _ hw, removeWsCl_cons_ws hw, ih]

/-- the sequence of non-whitespace characters is preserved (each trimmed) -/
theorem clean_nonws (s : List (List Nat)) : removeWsCl (cleanCl s) = (removeWsCl s).map trimCl :=
  cleanAux_nonws s false false

/-- on the property's domain the non-whitespace character sequence is preserved exactly -/
theorem clean_nonws_stable {s : List (List Nat)} (h : Stable s) : removeWsCl (cleanCl s) = removeWsCl s := by
  rw [clean_nonws]
  exact (List.map_congr_left (stable_iff.mp h)).trans (List.map_id _)

theorem cleanAux_of_cleanCh {t : List (List Nat)} (h : CleanCh t) (hs : Stable t) : cleanAux t false true = t := by
  induction h with
  | nil => rfl
  | @ch c r hw _ ih =>
    rw [cleanAux_cons_nonws r _ _ hw, hs c List.mem_cons_self hw, ih hs.tail]; rfl
  | @sep c r hw _ ih =>
    rw [cleanAux_cons_ws _ _ _ isWsCl_sp, cleanAux_cons_nonws r _ _ hw, hs.tail c List.mem_cons_self hw,
      ih hs.tail.tail]; rfl

/-- a text already in normal form is left unchanged -/
theorem clean_of_Clean {t : List (List Nat)} (h : Stable t) (hc : CleanB t = true) : cleanCl t = t := by
  match t with
  | [] => rfl
  | c :: r =>
    obtain ⟨hw, hr⟩ := CleanB_cons.mp hc
    rw [cleanCl, cleanAux_cons_nonws r _ _ hw, h c List.mem_cons_self hw,
      cleanAux_of_cleanCh hr h.tail]; rfl

/-- `clean` is idempotent: `clean(s)` is in normal form and `Stable` with `s` -/
theorem clean_idem {s : List (List Nat)} (h : Stable s) : cleanCl (cleanCl s) = cleanCl s :=
  clean_of_Clean (h.of_nonws_eq (clean_nonws_stable h)) (clean_Clean s)

theorem consWord_isEmpty (c : List Nat) (b : Bool) (ws : List (List (List Nat))) : (consWord c b ws).isEmpty = false := by
  unfold consWord; split <;> rfl

theorem joinSp_consWord (c : List Nat) (b : Bool) (ws : List (List (List Nat))) :
    joinSp (consWord c b ws) = c :: ((if b && !ws.isEmpty then [sp] else []) ++ joinSp ws) := by
  match b, ws with
  | true, [] => rfl
  | false, [] => rfl
  | true, _ :: _ => rfl
  | false, [_] => rfl
  | false, _ :: _ :: _ => rfl

theorem cleanAux_eq_join (s : List (List Nat)) (h : Stable s) (lastWs ne : Bool) :
    cleanAux s lastWs ne =
      (if ne && (lastWs || startsWs s) && !(splitWs s).isEmpty then [sp] else []) ++ joinSp (splitWs s) := by
  induction s generalizing lastWs ne with
  | nil =>
    show [] = (if (ne && (lastWs || startsWs []) && false) = true then [sp] else []) ++ []
    rw [Bool.and_false, if_neg Bool.false_ne_true]; rfl
  | cons c cs ih =>
    cases hw : isWsCl c
    · rw [cleanAux_cons_nonws cs _ _ hw, h c List.mem_cons_self hw, ih h.tail, splitWs_cons_nonws cs hw,
        joinSp_consWord, consWord_isEmpty, startsWs, hw, Bool.or_false, Bool.not_false, Bool.and_true,
        Bool.true_and, Bool.false_or, Bool.and_comm]
    · rw [cleanAux_cons_ws cs _ _ hw, ih h.tail, splitWs_cons_ws cs hw, startsWs, hw, Bool.or_true, Bool.true_or]

/-- `clean(s)` equals the whitespace-split words joined by single spaces -/
theorem clean_eq_join {s : List (List Nat)} (h : Stable s) : cleanCl s = joinSp (splitWs s) := by
  rw [cleanCl, cleanAux_eq_join s h, Bool.false_and, Bool.false_and, if_neg Bool.false_ne_true, List.nil_append]

/-- `joinSp` is `join(" ")` -/
theorem joinSp_eq_intercalate (ws : List (List (List Nat))) : joinSp ws = List.intercalate [sp] ws := by
  induction ws with
  | nil => rfl
  | cons w ws ih =>
    cases ws with
    | nil => simp [joinSp, List.intercalate]
    | cons w' rest => simp [joinSp, ih, List.intercalate, List.intersperse]

/-- ranges are non-empty, in order, separated by at least one position, and end by `hi` -/
def SepFrom : Nat → Nat → List (Nat × Nat) → Prop
  | _, _, [] => True
  | lo, hi, (a, b) :: rest => lo ≤ a ∧ a < b ∧ b ≤ hi ∧ SepFrom (b + 1) hi rest

def inRanges (wb : List (Nat × Nat)) (i : Nat) : Bool := wb.any (fun p => p.1 ≤ i && i < p.2)

theorem SepFrom.mono {lo lo' hi : Nat} {l : List (Nat × Nat)} (h : SepFrom lo hi l) (hl : lo' ≤ lo) : SepFrom lo' hi l := by
  match l, h with
  | [], _ => trivial
  | (a, b) :: rest, ⟨h1, h2⟩ => exact ⟨Nat.le_trans hl h1, h2⟩

theorem wbAux_sep (cs : List (List Nat)) (idx : Nat) :
    SepFrom idx (idx + cs.length) (wbAux cs idx none) ∧
    ∀ st, st < idx → SepFrom st (idx + cs.length) (wbAux cs idx (some st)) := by
  induction cs generalizing idx with
  | nil => exact ⟨trivial, fun st h => by rw [wbAux, if_pos h]; exact ⟨Nat.le_refl _, h, Nat.le_refl _, trivial⟩⟩
  | cons c cs ih =>
    obtain ⟨ih1, ih2⟩ := ih (idx + 1)
    rw [Nat.add_right_comm, Nat.add_assoc] at ih1 ih2
    cases hw : isWsCl c
    · rw [wbAux_nonws_none cs idx hw]
      exact ⟨ih2 idx (Nat.lt_succ_self _), fun st h => by
        rw [wbAux_nonws_some cs idx st hw]; exact ih2 st (Nat.lt_succ_of_lt h)⟩
    · rw [wbAux_ws_none cs idx hw]
      exact ⟨ih1.mono (Nat.le_succ _), fun st h => by
        rw [wbAux_ws_some cs idx st hw]; exact ⟨Nat.le_refl _, h, Nat.le_add_right _ _, ih1⟩⟩

/-- the ranges are non-empty, strictly increasing, pairwise separated and inside the text -/
theorem wordBoundaries_sep (s : List (List Nat)) : SepFrom 0 s.length (wordBoundaries s) := by
  have := (wbAux_sep s 0).1
  rwa [Nat.zero_add] at this

def nonWsAt (cs : List (List Nat)) (k : Nat) : Bool := match cs[k]? with | some c => !isWsCl c | none => false

theorem nonWsAt_cons_succ (c : List Nat) (cs) (k) : nonWsAt (c :: cs) (k+1) = nonWsAt cs k := by
  simp [nonWsAt]
theorem nonWsAt_cons_zero (c : List Nat) (cs) : nonWsAt (c :: cs) 0 = !isWsCl c := by
  simp [nonWsAt]

theorem inRanges_cons (p : Nat × Nat) (l : List (Nat × Nat)) (i : Nat) :
    inRanges (p :: l) i = ((decide (p.1 ≤ i) && decide (i < p.2)) || inRanges l i) := List.any_cons

/-- a position before the running index lies in a range iff a word is open and began at or before it -/
theorem wbAux_before (cs : List (List Nat)) {idx i : Nat} (hi : i < idx) :
    inRanges (wbAux cs idx none) i = false ∧
    ∀ st, st < idx → inRanges (wbAux cs idx (some st)) i = decide (st ≤ i) := by
  induction cs generalizing idx with
  | nil =>
    exact ⟨rfl, fun st h => by
      rw [wbAux, if_pos h, inRanges_cons, decide_eq_true hi, Bool.and_true]; exact Bool.or_false _⟩
  | cons c cs ih =>
    obtain ⟨ih1, ih2⟩ := ih (Nat.lt_succ_of_lt hi)
    cases hw : isWsCl c
    · exact ⟨by rw [wbAux_nonws_none cs idx hw, ih2 idx (Nat.lt_succ_self _), decide_eq_false (Nat.not_le.mpr hi)],
        fun st h => by rw [wbAux_nonws_some cs idx st hw, ih2 st (Nat.lt_succ_of_lt h)]⟩
    · exact ⟨by rw [wbAux_ws_none cs idx hw, ih1], fun st h => by
        rw [wbAux_ws_some cs idx st hw, inRanges_cons, ih1, decide_eq_true hi, Bool.and_true, Bool.or_false]⟩

/-- a position from the running index on lies in a range iff its character is not white space -/
theorem wbAux_from (cs : List (List Nat)) (idx j : Nat) :
    inRanges (wbAux cs idx none) (idx + j) = nonWsAt cs j ∧
    ∀ st, st ≤ idx → inRanges (wbAux cs idx (some st)) (idx + j) = nonWsAt cs j := by
  induction cs generalizing idx j with
  | nil =>
    refine ⟨rfl, fun st h => ?_⟩
    rw [wbAux]
    split
    · rw [inRanges_cons, decide_eq_false (Nat.not_lt.mpr (Nat.le_add_right idx j)), Bool.and_false]; rfl
    · rfl
  | cons c cs ih =>
    cases j with
    | zero =>
      obtain ⟨h1, h2⟩ := wbAux_before cs (Nat.lt_add_one idx)
      rw [nonWsAt_cons_zero, Nat.add_zero]
      cases hw : isWsCl c
      · exact ⟨by rw [wbAux_nonws_none cs idx hw, h2 idx (Nat.lt_add_one _), decide_eq_true (Nat.le_refl _)]; rfl,
          fun st h => by rw [wbAux_nonws_some cs idx st hw, h2 st (Nat.lt_add_one_of_le h), decide_eq_true h]; rfl⟩
      · exact ⟨by rw [wbAux_ws_none cs idx hw, h1]; rfl, fun st h => by
          rw [wbAux_ws_some cs idx st hw, inRanges_cons, h1, decide_eq_false (Nat.lt_irrefl idx), Bool.and_false]; rfl⟩
    | succ j =>
      obtain ⟨ih1, ih2⟩ := ih (idx + 1) j
      rw [nonWsAt_cons_succ, ← Nat.add_assoc, Nat.add_right_comm]
      cases hw : isWsCl c
      · exact ⟨by rw [wbAux_nonws_none cs idx hw, ih2 idx (Nat.le_succ _)],
          fun st h => by rw [wbAux_nonws_some cs idx st hw, ih2 st (Nat.le_succ_of_le h)]⟩
      · exact ⟨by rw [wbAux_ws_none cs idx hw, ih1], fun st h => by
          rw [wbAux_ws_some cs idx st hw, inRanges_cons, ih1,
            decide_eq_false (show ¬ idx + 1 + j < idx by omega),
            Bool.and_false, Bool.false_or]⟩

/-- a position lies in one of the reported ranges iff it holds a non-whitespace character; with
`wordBoundaries_sep` (non-empty, ordered, separated ranges) the ranges are therefore exactly the
maximal runs of non-whitespace characters, i.e. the words, in order -/
theorem wordBoundaries_cover (s : List (List Nat)) (i : Nat) :
    inRanges (wordBoundaries s) i = nonWsAt s i := by
  have := (wbAux_from s 0 i).1
  rwa [Nat.zero_add] at this

/-- `remove(s)` is `s` without its whitespace characters (code points), on the property's domain -/
theorem remove_eq {s : List (List Nat)} (h : unmixed s = true) :
    removeWs s = s.flatten.filter (fun x => !isWsCp x) := by
  rw [← filter_flatten_removeWsCl, removeWs, eq_comm, List.filter_eq_self]
  intro x hx
  obtain ⟨c, hc, hxc⟩ := List.mem_flatten.mp hx
  obtain ⟨hcs, hw⟩ := mem_removeWsCl.mp hc
  have := List.all_eq_true.mp h c hcs
  rw [hw, Bool.false_or, Bool.and_eq_true] at this
  exact List.all_eq_true.mp this.2 x hxc

theorem removeWsCl_intersperse : ∀ l : List (List Nat), (∀ c ∈ l, isWsCl c = false) →
    removeWsCl (l.intersperse sp) = l
  | [], _ => rfl
  | [a], h => removeWsCl_cons_nonws (h a List.mem_cons_self)
  | a :: b :: l, h => by
    rw [List.intersperse_cons_cons, removeWsCl_cons_nonws (h a List.mem_cons_self), removeWsCl_sp_cons,
      removeWsCl_intersperse (b :: l) fun c hc => h c (List.mem_cons_of_mem _ hc)]

/-- `full(s)`: the remaining characters, one space between neighbours; it is in normal form and has
the same non-whitespace characters -/
theorem full_eq (s : List (List Nat)) : fullCl s = (s.filter (fun c => !isWsCl c)).intersperse sp := rfl

theorem full_nonws (s : List (List Nat)) : removeWsCl (fullCl s) = removeWsCl s :=
  removeWsCl_intersperse _ fun _ hc => (mem_removeWsCl.mp hc).2

/-! non-vacuity -/

example : cleanCl [[32], [97], [9], [10], [98], [32]] = [[97], sp, [98]] := by decide +kernel
example : wordBoundaries [[32], [97], [9], [10], [98], [99]] = [(1, 2), (4, 6)] := by decide +kernel
example : Stable [[32], [97], [13, 10], [98, 769]] := stable_of_unmixed (by decide +kernel)

end Tu.C11

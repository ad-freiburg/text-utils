/-
  The line reader model (Model/Lines.lean) on a file written as its terminated lines followed by what comes after the
  last line feed (`splitLF_shape`); the theorems of Props/C07.lean about the reader are read off that shape.
-/
import TuModel.Model.Lines
namespace Tu.LinesL
open Tu

theorem splitLFGo_nil (acc : List Nat) :
    splitLFGo [] acc = if acc = [] then [] else [acc.reverse] := by rw [splitLFGo]

theorem splitLFGo_lf (rest acc : List Nat) :
    splitLFGo (10 :: rest) acc = (10 :: acc).reverse :: splitLFGo rest [] := by
  rw [splitLFGo]; simp

theorem splitLFGo_other (c : Nat) (rest acc : List Nat) (h : c ≠ 10) :
    splitLFGo (c :: rest) acc = splitLFGo rest (c :: acc) := by
  rw [splitLFGo]; simp [h]

theorem splitLFGo_append (l : List Nat) (h : 10 ∉ l) (rest : List Nat) : ∀ acc,
    splitLFGo (l ++ rest) acc = splitLFGo rest (l.reverse ++ acc) := by
  induction l with
  | nil => intro acc; rfl
  | cons c l ih =>
    intro acc
    rw [List.cons_append, splitLFGo_other c _ acc fun e => h (by simp [e]), ih fun e => h (List.mem_cons_of_mem _ e),
      List.reverse_cons, List.append_assoc]
    rfl

theorem splitLF_line (l : List Nat) (h : 10 ∉ l) (rest : List Nat) :
    splitLF (l ++ 10 :: rest) = (l ++ [10]) :: splitLF rest := by
  unfold splitLF
  rw [splitLFGo_append l h, splitLFGo_lf]
  simp

theorem splitLF_tail (l : List Nat) (h : 10 ∉ l) : splitLF l = if l = [] then [] else [l] := by
  have := splitLFGo_append l h [] []
  rw [List.append_nil] at this
  rw [splitLF, this, splitLFGo_nil]
  simp

theorem splitLF_lines (ls : List (List Nat)) (h : ∀ l ∈ ls, 10 ∉ l) (tail : List Nat) :
    splitLF (ls.flatMap (· ++ [10]) ++ tail) = ls.map (· ++ [10]) ++ splitLF tail := by
  induction ls with
  | nil => simp
  | cons l ls ih =>
    have h1 : 10 ∉ l := h l (by simp)
    have h2 : ∀ l ∈ ls, 10 ∉ l := fun x hx => h x (List.mem_cons_of_mem _ hx)
    rw [List.flatMap_cons, List.append_assoc, List.append_assoc, List.singleton_append,
      splitLF_line l h1, ih h2]
    rfl

/-- what the reader makes of a file given by its lines: one chunk per terminated line, and one for what follows the
last line feed unless that is empty -/
theorem splitLF_shape (ls : List (List Nat)) (last : List Nat) (h : ∀ l ∈ ls, 10 ∉ l) (hl : 10 ∉ last) :
    splitLF (ls.flatMap (· ++ [10]) ++ last) = ls.map (· ++ [10]) ++ if last = [] then [] else [last] := by
  rw [splitLF_lines ls h last, splitLF_tail last hl]

theorem splitLF_terminated (ls : List (List Nat)) (h : ∀ l ∈ ls, 10 ∉ l) :
    splitLF (ls.flatMap (· ++ [10])) = ls.map (· ++ [10]) := by
  have := splitLF_shape ls [] h nofun
  rwa [if_pos rfl, List.append_nil, List.append_nil] at this

theorem splitLF_unterminated (ls : List (List Nat)) (last : List Nat) (h : ∀ l ∈ ls, 10 ∉ l)
    (hl : 10 ∉ last) (hne : last ≠ []) :
    splitLF (ls.flatMap (· ++ [10]) ++ last) = ls.map (· ++ [10]) ++ [last] := by
  rw [splitLF_shape ls last h hl, if_neg hne]

theorem lossyLine_line (l : List Nat) : lossyLine (l ++ [10]) = stripCR l := by
  unfold lossyLine
  rw [List.dropLast_concat]

theorem map_lossyLine (ls : List (List Nat)) : (ls.map (· ++ [10])).map lossyLine = ls.map stripCR := by
  rw [List.map_map]
  exact List.map_congr_left fun l _ => lossyLine_line l

end Tu.LinesL

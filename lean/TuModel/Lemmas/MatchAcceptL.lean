import TuModel.Model.Match
import TuModel.Lemmas.FlatTable
namespace Tu

theorem pairsIncreasing_cons_cons (p q : Nat × Nat) (rest : List (Nat × Nat)) :
    pairsIncreasing (p :: q :: rest) = true ↔ (p.1 < q.1 ∧ p.2 < q.2) ∧ pairsIncreasing (q :: rest) = true := by
  rw [pairsIncreasing, Bool.and_eq_true, Bool.and_eq_true, decide_eq_true_eq, decide_eq_true_eq]

theorem pairsIncreasing_iff (m : List (Nat × Nat)) :
    pairsIncreasing m = true ↔ m.Pairwise (fun p q => p.1 < q.1 ∧ p.2 < q.2) :=
  adjacent_iff_pairwise (fun h1 h2 => ⟨Nat.lt_trans h1.1 h2.1, Nat.lt_trans h1.2 h2.2⟩) pairsIncreasing rfl (fun _ => rfl)
    pairsIncreasing_cons_cons m

theorem map_getD_sublist_drop (a : List (List Nat)) :
    ∀ (is : List Nat) (k : Nat), is.Pairwise (· < ·) → (∀ i ∈ is, k ≤ i ∧ i < a.length) →
      List.Sublist (is.map (fun i => a.getD i [])) (a.drop k) := by
  intro is
  induction is with
  | nil => exact fun _ _ _ => List.nil_sublist _
  | cons i is ih =>
    intro k hp hb
    obtain ⟨h1, h2⟩ := List.pairwise_cons.mp hp
    obtain ⟨hk, hi⟩ := hb i (List.mem_cons_self ..)
    refine List.Sublist.trans ?_ (List.drop_sublist_drop_left a hk)
    rw [drop_eq_getD_cons a i [] hi, List.map_cons]
    exact (ih (i + 1) h2 fun x hx => ⟨h1 x hx, (hb x (List.mem_cons_of_mem _ hx)).2⟩).cons_cons _

theorem map_getD_sublist (a : List (List Nat)) (is : List Nat) (hp : is.Pairwise (· < ·))
    (hb : ∀ i ∈ is, i < a.length) : List.Sublist (is.map (fun i => a.getD i [])) a :=
  map_getD_sublist_drop a is 0 hp fun i hi => ⟨Nat.zero_le _, hb i hi⟩

/-- an increasing in-range matching of equal words spells out a common subsequence -/
theorem matching_common (a b : List (List Nat)) (m : List (Nat × Nat))
    (hinc : m.Pairwise (fun p q => p.1 < q.1 ∧ p.2 < q.2))
    (hb : ∀ p ∈ m, p.1 < a.length ∧ p.2 < b.length ∧ a.getD p.1 [] = b.getD p.2 []) :
    ∃ c : List (List Nat), List.Sublist c a ∧ List.Sublist c b ∧ c.length = m.length := by
  refine ⟨(m.map Prod.fst).map (fun i => a.getD i []), ?_, ?_, by rw [List.length_map, List.length_map]⟩
  · exact map_getD_sublist a _ (List.pairwise_map.mpr (hinc.imp And.left))
      (fun i hi => by obtain ⟨p, hp, rfl⟩ := List.mem_map.mp hi; exact (hb p hp).1)
  · have he : (m.map Prod.fst).map (fun i => a.getD i []) = (m.map Prod.snd).map (fun j => b.getD j []) := by
      rw [List.map_map, List.map_map]
      exact List.map_congr_left (fun p hp => (hb p hp).2.2)
    rw [he]
    exact map_getD_sublist b _ (List.pairwise_map.mpr (hinc.imp And.right))
      (fun j hj => by obtain ⟨p, hp, rfl⟩ := List.mem_map.mp hj; exact (hb p hp).2.1)

theorem matchAccept_iff (a b : List (List Nat)) (m : List (Nat × Nat)) :
    matchAccept a b m = true ↔
      m.Pairwise (fun p q => p.1 < q.1 ∧ p.2 < q.2) ∧
      (∀ p ∈ m, p.1 < a.length ∧ p.2 < b.length ∧ a.getD p.1 [] = b.getD p.2 []) ∧
      m.length = ((matchWords a b).getD []).length := by
  unfold matchAccept
  simp only [Bool.and_eq_true, pairsIncreasing_iff, List.all_eq_true, decide_eq_true_eq, beq_iff_eq,
    and_assoc]

end Tu

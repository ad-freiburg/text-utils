/-
  C11 (find_substring_ignoring_whitespace) — the leftmost match of `\s* c1 \s* c2 ... \s* cn \s*`:
  what is returned is a range of `s`, equals the literals up to white space, is the leftmost match, is not
  preceded / followed by white space, and (for literals of one code point that is not white space) a match is
  found whenever one exists.  Model: Model/FindSub.lean; lemmas: Lemmas/FindSubL.lean.
-/
import TuModel.Lemmas.FindSubL
namespace Tu.C11fs
open Tu

/-- what is matched differs from the literals only by white space -/
theorem matchLits_sound (lits : List (List Nat)) (s : List Nat) (n : Nat) (h : matchLits lits s = some n) :
    nonWs (s.take n) = nonWs lits.flatten := by
  obtain ⟨l, t, rfl, hl, hp, _⟩ := matchLits_some h
  rw [List.take_left' hl, hp.nonWs]

theorem findSub_range {s : List Nat} {lits : List (List Nat)} {a b : Nat} (h : findSub s lits = some (a, b)) :
    ∃ l t, s.drop a = l ++ t ∧ a + l.length = b ∧ matchLits lits (s.drop a) = some l.length ∧ PatInst lits l ∧
      ∀ x ∈ t.head?, isWsCp x = false := by
  obtain ⟨_, _, ⟨len, hm, rfl⟩, _⟩ := findFrom_some h
  obtain ⟨l, t, hs, rfl, hp, ht⟩ := matchLits_some hm
  exact ⟨l, t, hs, rfl, hm, hp, ht⟩

theorem findSub_bounds {s : List Nat} {lits : List (List Nat)} {a b : Nat} (h : findSub s lits = some (a, b)) :
    a ≤ b ∧ b ≤ s.length := by
  obtain ⟨l, t, hs, rfl, _⟩ := findSub_range h
  have := congrArg List.length hs
  rw [List.length_drop, List.length_append] at this
  have := (findFrom_some h).2.1
  omega

/-- the returned slice is `substring` up to white space -/
theorem findSub_sound (s : List Nat) (lits : List (List Nat)) (a b : Nat) (h : findSub s lits = some (a, b)) :
    nonWs ((s.drop a).take (b - a)) = nonWs lits.flatten := by
  obtain ⟨l, t, hs, rfl, _, hp, _⟩ := findSub_range h
  rw [hs, Nat.add_sub_cancel_left, List.take_left' rfl, hp.nonWs]

/-- leftmost: the pattern matches at no earlier position -/
theorem findSub_leftmost (s : List Nat) (lits : List (List Nat)) (a b : Nat) (h : findSub s lits = some (a, b)) :
    ∀ p, p < a → matchLits lits (s.drop p) = none :=
  fun p hp => (findFrom_some h).2.2.2 p (Nat.zero_le _) hp

/-- the slice is not preceded and not followed by white space: a white-space code point in front would have given
a match one position earlier -/
theorem findSub_tight (s : List Nat) (lits : List (List Nat)) (a b : Nat) (h : findSub s lits = some (a, b)) :
    (∀ c, s[b]? = some c → isWsCp c = false) ∧ (∀ c, 0 < a → s[a - 1]? = some c → isWsCp c = false) := by
  obtain ⟨l, t, hs, rfl, hm, _, ht⟩ := findSub_range h
  constructor
  · intro c hc
    refine ht c ?_
    rw [← List.getElem?_drop, hs, List.getElem?_append_right (Nat.le_refl _), Nat.sub_self, ← List.head?_eq_getElem?] at hc
    exact hc
  · intro c ha hc
    cases hw : isWsCp c with
    | false => rfl
    | true =>
      have hlt : a - 1 < s.length := (List.getElem?_eq_some_iff.mp hc).1
      have hd : s.drop (a - 1) = c :: s.drop a := by
        rw [List.drop_eq_getElem_cons hlt, Nat.sub_add_cancel ha, (List.getElem?_eq_some_iff.mp hc).2]
      have := matchLits_cons_ws hw (hm ▸ rfl : (matchLits lits (s.drop a)).isSome = true)
      rw [← hd, findSub_leftmost s lits _ _ h (a - 1) (Nat.sub_lt ha Nat.one_pos)] at this
      cases this

theorem findSub_none (s : List Nat) (lits : List (List Nat)) (h : findSub s lits = none) :
    ∀ p, p ≤ s.length → matchLits lits (s.drop p) = none :=
  fun p hp => findFrom_none h p (Nat.zero_le _) (by omega)

/-- an empty `substring` (or one of white space only) matches the white-space run at the very beginning -/
theorem findSub_nil (s : List Nat) : findSub s [] = some (0, wsRun s) := by
  rw [findSub, findFrom, List.drop_zero, matchLits_nil]
  exact congrArg (fun n => some (0, n)) (Nat.zero_add _)

/-! ### completeness

As stated for arbitrary literals without white space, completeness is false: a literal of more than one code
point (a grapheme cluster) is matched contiguously, while "equal up to white space" lets white space stand
between its code points.  `[97, 32, 98]` equals the one literal `[97, 98]` up to white space, and
`\s*ab\s*` does not match it. -/

/-- the anchored matcher is not complete for literals of more than one code point -/
example : ¬ (∀ (lits : List (List Nat)) (_ : ∀ c ∈ lits, c ≠ [] ∧ ∀ x ∈ c, isWsCp x = false)
    (s : List Nat) (n : Nat) (_ : n ≤ s.length) (_ : nonWs (s.take n) = lits.flatten),
    ∃ m, matchLits lits s = some m) := by
  intro H
  obtain ⟨m, hm⟩ := H [[97, 98]] (by decide +kernel) [97, 32, 98] 3 (by decide +kernel) (by decide +kernel)
  have h0 : matchLits [[97, 98]] [97, 32, 98] = none := by decide +kernel
  rw [h0] at hm
  cases hm

/-- nor is the search -/
example : ¬ (∀ (s : List Nat) (lits : List (List Nat)) (_ : ∀ c ∈ lits, c ≠ [] ∧ ∀ x ∈ c, isWsCp x = false)
    (a b : Nat) (_ : a ≤ b) (_ : b ≤ s.length) (_ : nonWs ((s.drop a).take (b - a)) = lits.flatten),
    ∃ r, findSub s lits = some r) := by
  intro H
  obtain ⟨r, hr⟩ := H [97, 32, 98] [[97, 98]] (by decide +kernel) 0 3 (by decide +kernel) (by decide +kernel) (by decide +kernel)
  have h0 : findSub [97, 32, 98] [[97, 98]] = none := by decide +kernel
  rw [h0] at hr
  cases hr

/-- the data of the counterexample, checked by evaluation -/
example : (∀ c ∈ [[97, 98]], c ≠ [] ∧ ∀ x ∈ c, isWsCp x = false) ∧
    nonWs (([97, 32, 98].drop 0).take (3 - 0)) = [[97, 98]].flatten ∧
    matchLits [[97, 98]] [97, 32, 98] = none ∧ findSub [97, 32, 98] [[97, 98]] = none := by decide +kernel

/-! ### completeness for literals of any length (also with white space inside): the language of the pattern

`PatInst lits l`: `l` is white space, then each literal followed by white space.  The matcher succeeds exactly on
the strings that have such a prefix, and the search finds a match whenever some slice of `s` is one. -/

theorem matchLits_iff_patInst (lits : List (List Nat)) (s : List Nat) :
    (∃ m, matchLits lits s = some m) ↔ ∃ n, n ≤ s.length ∧ PatInst lits (s.take n) := by
  constructor
  · intro ⟨m, hm⟩
    obtain ⟨l, t, rfl, rfl, hp, _⟩ := matchLits_some hm
    exact ⟨l.length, by simp, by rwa [List.take_left' rfl]⟩
  · intro ⟨n, _, hn⟩
    have := matchLits_of_patInst (s.drop n) hn
    rwa [List.take_append_drop, Option.isSome_iff_exists] at this

theorem findSub_complete_patInst (s : List Nat) (lits : List (List Nat)) (a b : Nat) (hab : a ≤ b)
    (hb : b ≤ s.length) (h : PatInst lits ((s.drop a).take (b - a))) : ∃ r, findSub s lits = some r := by
  cases hf : findSub s lits with
  | some r => exact ⟨r, rfl⟩
  | none =>
    have := matchLits_of_patInst ((s.drop a).drop (b - a)) h
    rw [List.take_append_drop, findSub_none s lits hf a (Nat.le_trans hab hb)] at this
    cases this

theorem matchLits_complete_partial (lits : List (List Nat))
    (hl : ∀ c ∈ lits, ∃ x, c = [x] ∧ isWsCp x = false)
    (s : List Nat) (n : Nat) (h : nonWs (s.take n) = lits.flatten) :
    ∃ m, matchLits lits s = some m := by
  have := matchLits_of_patInst (s.drop n) (patInst_of_nonWs_eq hl h)
  rwa [List.take_append_drop, Option.isSome_iff_exists] at this

/-- completeness for literals of one code point that is not white space: whenever some slice of `s` equals the
literals up to white space, the function finds one -/
theorem findSub_complete_partial (s : List Nat) (lits : List (List Nat))
    (hl : ∀ c ∈ lits, ∃ x, c = [x] ∧ isWsCp x = false)
    (a b : Nat) (hab : a ≤ b) (hb : b ≤ s.length) (h : nonWs ((s.drop a).take (b - a)) = lits.flatten) :
    ∃ r, findSub s lits = some r :=
  findSub_complete_patInst s lits a b hab hb (patInst_of_nonWs_eq hl h)

example : findSub [97, 32, 98, 32, 32, 99, 32, 100] [[98], [99]] = some (1, 7) := by decide +kernel
example : findSub [97, 32, 98, 32, 32, 99, 32, 100] [[99], [98]] = none := by decide +kernel
example : findSub [32, 32, 97] [] = some (0, 2) := by decide +kernel
/-- backtracking: the literal starts with a white-space code point, the greedy `\s*` has to give it back -/
example : findSub [120, 32, 769] [[32, 769]] = some (1, 3) := by decide +kernel
example : findSub [120, 32, 32, 769, 32] [[32, 769]] = some (1, 5) := by decide +kernel

end Tu.C11fs

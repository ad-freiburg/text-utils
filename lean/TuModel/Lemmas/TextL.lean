/-
  Lemmas of the text model (Model/Text.lean): white-space clusters and trimming; `removeWsCl`, which is what two
  texts that differ only in white space have in common; one step of each scanner; the whitespace normal form by
  its shape (`CleanCh`).
-/
import TuModel.Model.Text
import TuModel.Lemmas.ListL
namespace Tu

theorem isWsCl_sp : isWsCl sp = true := by decide
theorem isWsCl_nil : isWsCl [] = true := rfl

theorem isWsCl_trimCl (c : List Nat) : isWsCl (trimCl c) = isWsCl c := by
  simp only [isWsCl, trimCl, List.all_eq_not_any_not, List.any_reverse, List.any_dropWhile, Bool.not_not]

theorem trimCl_ne_nil {c : List Nat} (h : isWsCl c = false) : (trimCl c).isEmpty = false := by
  cases ht : trimCl c with
  | nil => rw [← isWsCl_trimCl, ht, isWsCl_nil] at h; cases h
  | cons a l => rfl

theorem trimCl_eq_self {l : List Nat} (h1 : ∀ a ∈ l.head?, isWsCp a = false) (h2 : ∀ b ∈ l.getLast?, isWsCp b = false) :
    trimCl l = l := by
  rw [trimCl, dropWhile_eq_self h1, dropWhile_eq_self (List.head?_reverse ▸ h2), List.reverse_reverse]

theorem trimCl_of_all_nonws {c : List Nat} (h : c.all (fun x => !isWsCp x) = true) : trimCl c = c :=
  have hc : ∀ a ∈ c, isWsCp a = false := fun a ha => by simpa using List.all_eq_true.mp h a ha
  trimCl_eq_self (fun a ha => hc a (List.mem_of_mem_head? ha)) (fun b hb => hc b (List.mem_of_getLast? hb))

theorem trimCl_mem (line : List Nat) : ∀ c ∈ trimCl line, c ∈ line := fun _ hc =>
  (List.dropWhile_sublist isWsCp).subset
    (List.mem_reverse.1 ((List.dropWhile_sublist isWsCp).subset (List.mem_reverse.1 hc)))

theorem trimCl_head {line : List Nat} {a : Nat} {r : List Nat} (h : trimCl line = a :: r) : isWsCp a = false := by
  have hpre := List.reverse_prefix.2 (List.dropWhile_suffix isWsCp (l := (line.dropWhile isWsCp).reverse))
  rw [List.reverse_reverse, ← trimCl, h] at hpre
  obtain ⟨t, ht⟩ := hpre
  have := List.head?_dropWhile_not isWsCp line
  rw [← ht] at this
  exact this

/-- `trim` is the identity on the clusters of the text that are not white space.  Holds in code-point mode
(`singletons`) and on the property's grapheme-mode domain (`unmixed`). -/
def Stable (s : List (List Nat)) : Prop := ∀ c ∈ s, isWsCl c = false → trimCl c = c

theorem unmixed_cons (c : List Nat) (cs : List (List Nat)) :
    unmixed (c :: cs) = (!c.isEmpty && (isWsCl c || c.all fun x => !isWsCp x) && unmixed cs) := rfl

theorem unmixed_cons_nonws {c : List Nat} {cs : List (List Nat)} (hw : isWsCl c = false) (h : unmixed (c :: cs) = true) :
    (c ≠ [] ∧ c.all (fun x => !isWsCp x) = true) ∧ unmixed cs = true := by
  rw [unmixed_cons, hw, Bool.false_or, Bool.and_eq_true, Bool.and_eq_true] at h
  exact ⟨⟨fun e => by rw [e] at h; exact absurd h.1.1 Bool.false_ne_true, h.1.2⟩, h.2⟩

theorem stable_of_unmixed {s : List (List Nat)} (h : unmixed s = true) : Stable s := by
  intro c hc hw
  have := List.all_eq_true.mp h c hc
  rw [hw, Bool.false_or, Bool.and_eq_true] at this
  exact trimCl_of_all_nonws this.2

theorem unmixed_of_singletons {s : List (List Nat)} (h : singletons s = true) : unmixed s = true := by
  refine List.all_eq_true.mpr fun c hc => ?_
  match c, List.all_eq_true.mp h c hc with
  | [x], _ => cases hx : isWsCp x <;> simp [isWsCl, hx]

theorem Stable.tail {c : List Nat} {s : List (List Nat)} (h : Stable (c :: s)) : Stable s :=
  fun d hd => h d (List.mem_cons_of_mem _ hd)

theorem ne_sp_of_nonws {c : List Nat} (h : isWsCl c = false) : c ≠ sp := by
  rintro rfl; cases h

theorem removeWsCl_cons_ws {c : List Nat} {r : List (List Nat)} (hw : isWsCl c = true) :
    removeWsCl (c :: r) = removeWsCl r := List.filter_cons_of_neg (by simp [hw])
theorem removeWsCl_cons_nonws {c : List Nat} {r : List (List Nat)} (hw : isWsCl c = false) :
    removeWsCl (c :: r) = c :: removeWsCl r := List.filter_cons_of_pos (by simp [hw])
theorem removeWsCl_sp_cons (r : List (List Nat)) : removeWsCl (sp :: r) = removeWsCl r :=
  removeWsCl_cons_ws isWsCl_sp

theorem mem_removeWsCl {c : List Nat} {s : List (List Nat)} : c ∈ removeWsCl s ↔ c ∈ s ∧ isWsCl c = false := by
  simp only [removeWsCl, List.mem_filter, Bool.not_eq_true']

theorem stable_iff {s : List (List Nat)} : Stable s ↔ ∀ c ∈ removeWsCl s, trimCl c = c := by
  simp only [Stable, mem_removeWsCl, and_imp]

theorem Stable.of_nonws_eq {s t : List (List Nat)} (h : Stable s) (e : removeWsCl t = removeWsCl s) : Stable t :=
  stable_iff.mpr (e ▸ stable_iff.mp h)

theorem filter_flatten_removeWsCl (s : List (List Nat)) :
    (removeWsCl s).flatten.filter (fun x => !isWsCp x) = s.flatten.filter (fun x => !isWsCp x) := by
  induction s with
  | nil => rfl
  | cons c cs ih =>
    rw [List.flatten_cons, List.filter_append, ← ih]
    cases hw : isWsCl c
    · rw [removeWsCl_cons_nonws hw, List.flatten_cons, List.filter_append]
    · have : c.filter (fun x => !isWsCp x) = [] :=
        List.filter_eq_nil_iff.mpr fun x hx => by simp [List.all_eq_true.mp hw x hx]
      rw [removeWsCl_cons_ws hw, this, List.nil_append]

theorem cleanAux_cons_ws {c : List Nat} (cs : List (List Nat)) (lastWs ne : Bool) (hw : isWsCl c = true) :
    cleanAux (c :: cs) lastWs ne = cleanAux cs true ne := by
  rw [cleanAux, if_pos hw]

/-- a cluster that is not white space leaves something when trimmed, so the output is not empty afterwards -/
theorem cleanAux_cons_nonws {c : List Nat} (cs : List (List Nat)) (lastWs ne : Bool) (hw : isWsCl c = false) :
    cleanAux (c :: cs) lastWs ne = (if lastWs && ne then [sp] else []) ++ trimCl c :: cleanAux cs false true := by
  rw [cleanAux, if_neg (by simp [hw])]
  show _ ++ trimCl c :: cleanAux cs false (ne || !(trimCl c).isEmpty) = _
  rw [trimCl_ne_nil hw, Bool.not_false, Bool.or_true]

theorem wbAux_ws_none {c : List Nat} (cs : List (List Nat)) (idx : Nat) (hw : isWsCl c = true) :
    wbAux (c :: cs) idx none = wbAux cs (idx + 1) none := by simp only [wbAux, hw]
theorem wbAux_ws_some {c : List Nat} (cs : List (List Nat)) (idx st : Nat) (hw : isWsCl c = true) :
    wbAux (c :: cs) idx (some st) = (st, idx) :: wbAux cs (idx + 1) none := by simp only [wbAux, hw]
theorem wbAux_nonws_none {c : List Nat} (cs : List (List Nat)) (idx : Nat) (hw : isWsCl c = false) :
    wbAux (c :: cs) idx none = wbAux cs (idx + 1) (some idx) := by simp only [wbAux, hw]
theorem wbAux_nonws_some {c : List Nat} (cs : List (List Nat)) (idx st : Nat) (hw : isWsCl c = false) :
    wbAux (c :: cs) idx (some st) = wbAux cs (idx + 1) (some st) := by simp only [wbAux, hw]

theorem splitWs_cons_ws {c : List Nat} (cs : List (List Nat)) (hw : isWsCl c = true) :
    splitWs (c :: cs) = splitWs cs := by
  rw [splitWs, if_pos hw]

theorem splitWs_cons_nonws {c : List Nat} (cs : List (List Nat)) (hw : isWsCl c = false) :
    splitWs (c :: cs) = consWord c (startsWs cs) (splitWs cs) := by
  rw [splitWs, if_neg (by simp [hw])]

theorem cleanSt_cons_ws {st : CSt} {c : List Nat} {r : List (List Nat)} (hw : isWsCl c = true) :
    cleanSt st (c :: r) = (c == sp && st == .ch && cleanSt .sep r) := by
  rw [cleanSt, if_pos hw]
theorem cleanSt_cons_nonws {st : CSt} {c : List Nat} {r : List (List Nat)} (hw : isWsCl c = false) :
    cleanSt st (c :: r) = cleanSt .ch r := by
  rw [cleanSt, if_neg (by simp [hw])]

/-- the normal form after a character, by its shape: the text ends, or continues with a character, or with one
`sp` and a character.  Proofs about texts in normal form go by induction on this shape. -/
inductive CleanCh : List (List Nat) → Prop
  | nil : CleanCh []
  | ch {c r} : isWsCl c = false → CleanCh r → CleanCh (c :: r)
  | sep {c r} : isWsCl c = false → CleanCh r → CleanCh (sp :: c :: r)

theorem cleanCh_of_cleanSt : ∀ {t : List (List Nat)}, cleanSt .ch t = true → CleanCh t
  | [], _ => .nil
  | c :: r, h => by
    cases hw : isWsCl c
    · rw [cleanSt_cons_nonws hw] at h
      exact .ch hw (cleanCh_of_cleanSt h)
    · rw [cleanSt_cons_ws hw] at h
      simp only [Bool.and_eq_true, beq_iff_eq] at h
      obtain ⟨⟨rfl, _⟩, h⟩ := h
      match r with
      | [] => cases h
      | d :: r =>
        cases hd : isWsCl d
        · rw [cleanSt_cons_nonws hd] at h
          exact .sep hd (cleanCh_of_cleanSt h)
        · rw [cleanSt_cons_ws hd] at h; simp at h

theorem cleanSt_ch_iff {t : List (List Nat)} : cleanSt .ch t = true ↔ CleanCh t := by
  refine ⟨cleanCh_of_cleanSt, fun h => ?_⟩
  induction h with
  | nil => rfl
  | ch hw _ ih => rwa [cleanSt_cons_nonws hw]
  | sep hw _ ih => rw [cleanSt_cons_ws isWsCl_sp, cleanSt_cons_nonws hw, ih]; rfl

theorem CleanB_cons {c : List Nat} {r : List (List Nat)} :
    CleanB (c :: r) = true ↔ isWsCl c = false ∧ CleanCh r := by
  cases hw : isWsCl c
  · rw [CleanB, cleanSt_cons_nonws hw, cleanSt_ch_iff]; simp
  · rw [CleanB, cleanSt_cons_ws hw]; simp

theorem CleanB.cleanCh {t : List (List Nat)} (h : CleanB t = true) : CleanCh t := by
  match t with
  | [] => exact .nil
  | c :: r => exact .ch (CleanB_cons.mp h).1 (CleanB_cons.mp h).2

theorem CleanCh.removeWsCl_eq_nil {t : List (List Nat)} (h : CleanCh t) (hr : removeWsCl t = []) : t = [] := by
  cases h with
  | nil => rfl
  | ch hw _ => rw [removeWsCl_cons_nonws hw] at hr; cases hr
  | sep hw _ => rw [removeWsCl_sp_cons, removeWsCl_cons_nonws hw] at hr; cases hr

/-- the first character of a text in normal form and the rest, read off its non-white-space content -/
theorem CleanCh.cases_of_removeWsCl {t : List (List Nat)} {c : List Nat} {l : List (List Nat)} (h : CleanCh t)
    (hr : removeWsCl t = c :: l) :
    ∃ r, CleanCh r ∧ removeWsCl r = l ∧ (t = c :: r ∨ t = sp :: c :: r) := by
  cases h with
  | nil => cases hr
  | ch hw h =>
    rw [removeWsCl_cons_nonws hw] at hr; injection hr with h1 h2; subst h1
    exact ⟨_, h, h2, .inl rfl⟩
  | sep hw h =>
    rw [removeWsCl_sp_cons, removeWsCl_cons_nonws hw] at hr; injection hr with h1 h2; subst h1
    exact ⟨_, h, h2, .inr rfl⟩

end Tu

/-
  C07 — `MultiTrainDataGenerator` yields every item of every source exactly once, in per-source
  order, correctly tagged, and terminates; the sequential strategy visits the sources one after
  another and the interleaved strategy is round robin over the sources that still have items.
  Model: `Tu.mgRun` (Model/MultiGen.lean); lemmas in Lemmas/MultiGenL.lean.
-/
import TuModel.Lemmas.MultiGenL
import TuModel.Lemmas.LinesL
namespace Tu.C07
open Tu Tu.MultiGenL Tu.LinesL

/-- consume an output sequence against the sources: every yielded pair `(x, k)` must be the next
item of source `k`; returns what is left of the sources -/
def consume : List (List Nat) → List (Nat × Nat) → Option (List (List Nat))
  | srcs, [] => some srcs
  | srcs, (x, k) :: out => match srcs.getD k [] with
    | y :: rest => if x = y then consume (srcs.set k rest) out else none
    | [] => none

theorem consume_nil (srcs : List (List Nat)) : consume srcs [] = some srcs := by rw [consume]

theorem consume_cons (srcs : List (List Nat)) (x k : Nat) (out : List (Nat × Nat)) (left : List (List Nat)) :
    consume srcs ((x, k) :: out) = some left ↔
      ∃ rest, srcs.getD k [] = x :: rest ∧ consume (srcs.set k rest) out = some left := by
  rw [consume]
  cases srcs.getD k [] with
  | nil => exact ⟨nofun, nofun⟩
  | cons y rest =>
    dsimp only
    by_cases hxy : x = y
    · subst hxy
      rw [if_pos rfl]
      exact ⟨fun h => ⟨rest, rfl, h⟩, fun ⟨_, e, h⟩ => by cases e; exact h⟩
    · rw [if_neg hxy]
      exact ⟨nofun, fun ⟨_, e, _⟩ => absurd (List.cons.inj e).1.symm hxy⟩

/-- **every item exactly once, in per-source order, correctly tagged, and the iteration terminates**:
for every strategy, every choice stream (random draws) and every non-empty list of sources the
output is a merge of the sources that exhausts all of them (`hne` is not needed here and below: with no source
at all nothing is yielded, `mgRun_sim`) -/
theorem mgRun_merge (s : Strategy) (srcs : List (List Nat)) (cs : List Nat) (hne : srcs ≠ []) :
    ∃ left, consume srcs (mgRun s srcs cs) = some left ∧ ∀ l ∈ left, l = [] :=
  mgRun_sim (Q := fun g out => ∃ left, consume g.srcs out = some left ∧ ∀ l ∈ left, l = [])
    (fun _ _ rest _ _ hsrc _ _ ⟨left, h1, h2⟩ => ⟨left, (consume_cons ..).mpr ⟨rest, hsrc, h1⟩, h2⟩)
    (fun _ _ _ _ _ _ _ h => h)
    (fun g h => ⟨g.srcs, consume_nil _, (all_empty_iff_getD _).mpr h⟩) srcs cs

/-- what `consume` means: the items tagged `k`, in output order, followed by what is left of source `k`, are source `k` -/
theorem consume_projection (srcs : List (List Nat)) (out : List (Nat × Nat)) (left : List (List Nat))
    (h : consume srcs out = some left) (k : Nat) :
    ((out.filter (fun p => p.2 == k)).map (·.1)) ++ left.getD k [] = srcs.getD k [] := by
  induction out generalizing srcs with
  | nil =>
    rw [consume_nil] at h
    cases h
    simp
  | cons p out ih =>
    obtain ⟨x, k'⟩ := p
    obtain ⟨rest, hs, hc⟩ := (consume_cons ..).mp h
    have := ih _ hc
    by_cases hk : k' = k
    · subst hk
      have hlt : k' < srcs.length := lt_length_of_getD_ne (d := []) (by rw [hs]; simp)
      rw [getD_set_self _ _ _ _ hlt] at this
      simp only [List.filter_cons, beq_self_eq_true, if_true, List.map_cons, List.cons_append]
      rw [this, hs]
    · rw [getD_set_ne _ _ _ _ _ hk] at this
      have hb : (k' == k) = false := by simpa using hk
      simp only [List.filter_cons, hb]
      exact this

/-- corollary: per-source order and completeness -/
theorem mgRun_per_source (s : Strategy) (srcs : List (List Nat)) (cs : List Nat) (hne : srcs ≠ []) (k : Nat) :
    ((mgRun s srcs cs).filter (fun p => p.2 == k)).map (·.1) = srcs.getD k [] := by
  obtain ⟨left, h1, h2⟩ := mgRun_merge s srcs cs hne
  have := consume_projection srcs _ left h1 k
  rw [(all_empty_iff_getD left).mp h2 k, List.append_nil] at this
  exact this

theorem mgRun_length (s : Strategy) (srcs : List (List Nat)) (cs : List Nat) (hne : srcs ≠ []) :
    (mgRun s srcs cs).length = totalItems srcs :=
  mgRun_sim (Q := fun g out => out.length = totalItems g.srcs)
    (fun g x rest _ _ hsrc _ out h => by rw [List.length_cons, h]; exact totalItems_set _ _ x rest hsrc)
    (fun _ _ _ _ _ _ _ h => h)
    (fun g h => (totalItems_eq_zero _ ((all_empty_iff_getD _).mpr h)).symm) srcs cs

/-- sequential visits the sources one after another -/
theorem sequential_order (srcs : List (List Nat)) (cs : List Nat) (hne : srcs ≠ []) :
    mgRun .sequential srcs cs = seqSpec srcs :=
  mgRun_sequential srcs cs

/-- interleaved is round robin over the sources that still have items -/
theorem interleaved_round_robin (srcs : List (List Nat)) (cs : List Nat) (hne : srcs ≠ []) :
    mgRun .interleaved srcs cs = rrSpec (totalItems srcs + 1) srcs :=
  mgRun_interleaved srcs cs

/-! ### non-vacuity -/

example : mgRun .interleaved [[0,1],[0],[0,1,2]] [] = [(0,0),(0,1),(0,2),(1,0),(1,2),(2,2)] := by decide +kernel
example : mgRun .sequential [[0,1],[],[0,1,2]] [] = [(0,0),(1,0),(0,2),(1,2),(2,2)] := by decide +kernel
example : mgRun .weighted [[0,1],[0],[0,1,2]] [2,0,1,1] = [(0,0),(0,2),(1,0),(0,1),(1,2),(2,2)] := by decide +kernel
example : consume [[0,1],[0],[0,1,2]] [(0,0),(0,2),(1,0),(1,2),(2,2),(0,1)] = some [[],[],[]] := by decide +kernel
example : consume [[0,1],[0]] [(0,0),(0,0)] = none := by decide +kernel
example : consume [[0,1],[0]] [(0,1),(1,0)] = none := by decide +kernel
example : rrSpec 7 [[0,1],[0],[0,1,2]] = [(0,0),(0,1),(0,2),(1,0),(1,2),(2,2)] := by decide +kernel

/-! ### the line reader of the sources (`LossyUtf8Lines`, `count_lines`): Model/Lines.lean

The declared length of a source is `count_lines` of its file, and its items are the lines the same
reader yields.  A file is a byte list; `ls.flatMap (· ++ [10])` is the file whose lines are `ls`,
every one of them ended by a line feed. -/

/-- every byte list has exactly one of the two shapes (`last = []`: terminated or empty), so the
theorems below cover all inputs -/
theorem splitLF_cases (b : List Nat) :
    ∃ (ls : List (List Nat)) (last : List Nat),
      (∀ l ∈ ls, 10 ∉ l) ∧ 10 ∉ last ∧ b = ls.flatMap (· ++ [10]) ++ last := by
  induction b with
  | nil => exact ⟨[], [], nofun, nofun, rfl⟩
  | cons c b ih =>
    obtain ⟨ls, last, h1, h2, rfl⟩ := ih
    have hcons : ∀ {l : List Nat}, c ≠ 10 → 10 ∉ l → 10 ∉ c :: l :=
      fun hc hl hm => (List.mem_cons.1 hm).elim (fun e => hc e.symm) hl
    by_cases hc : c = 10
    · exact ⟨[] :: ls, last, List.forall_mem_cons.2 ⟨nofun, h1⟩, h2, by rw [hc]; rfl⟩
    · cases ls with
      | nil => exact ⟨[], c :: last, nofun, hcons hc h2, rfl⟩
      | cons l ls =>
        obtain ⟨hl, hls⟩ := List.forall_mem_cons.1 h1
        exact ⟨(c :: l) :: ls, last, List.forall_mem_cons.2 ⟨hcons hc hl, hls⟩, h2, rfl⟩

/-- the chunks are a partition of the file -/
theorem splitLF_flatten (b : List Nat) : (splitLF b).flatten = b := by
  obtain ⟨ls, last, h1, h2, rfl⟩ := splitLF_cases b
  rw [splitLF_shape ls last h1 h2, List.flatten_append, List.flatMap_def]
  split
  next h => rw [h]; rfl
  next => rw [List.flatten_singleton]

/-- `read_until` never delivers an empty chunk (it returns 0 only at the end of the input) -/
theorem splitLF_ne_nil (b : List Nat) : ∀ c ∈ splitLF b, c ≠ [] := by
  obtain ⟨ls, last, h1, h2, rfl⟩ := splitLF_cases b
  rw [splitLF_shape ls last h1 h2]
  intro c hc
  rcases List.mem_append.mp hc with hc | hc
  · obtain ⟨l, -, rfl⟩ := List.mem_map.mp hc
    exact List.append_ne_nil_of_right_ne_nil _ (List.cons_ne_nil _ _)
  · split at hc
    · cases hc
    · rename_i hne
      rw [List.mem_singleton.mp hc]
      exact hne

/-- a file whose every line ends with a line feed yields exactly its lines, one trailing carriage
return removed -/
theorem lossyLines_terminated (ls : List (List Nat)) (h : ∀ l ∈ ls, 10 ∉ l) :
    lossyLines (ls.flatMap (· ++ [10])) = ls.map stripCR := by
  unfold lossyLines
  rw [splitLF_terminated ls h, map_lossyLine]

/-- the quirk, stated outright: the unterminated last line loses its last byte (`buf.pop()` is
unconditional) -/
theorem lossyLines_unterminated (ls : List (List Nat)) (last : List Nat) (h : ∀ l ∈ ls, 10 ∉ l)
    (hl : 10 ∉ last) (hne : last ≠ []) :
    lossyLines (ls.flatMap (· ++ [10]) ++ last) = ls.map stripCR ++ [stripCR last.dropLast] := by
  unfold lossyLines
  rw [splitLF_unterminated ls last h hl hne, List.map_append, map_lossyLine]
  rfl

theorem countLines_terminated (ls : List (List Nat)) (h : ∀ l ∈ ls, 10 ∉ l) :
    countLines (ls.flatMap (· ++ [10])) = ls.length := by
  unfold countLines
  rw [splitLF_terminated ls h, List.length_map]

theorem countLines_unterminated (ls : List (List Nat)) (last : List Nat) (h : ∀ l ∈ ls, 10 ∉ l)
    (hl : 10 ∉ last) (hne : last ≠ []) :
    countLines (ls.flatMap (· ++ [10]) ++ last) = ls.length + 1 := by
  unfold countLines
  rw [splitLF_unterminated ls last h hl hne]
  simp

/-- the declared length of a source is the number of items its reader yields -/
theorem countLines_eq_length_lossyLines (b : List Nat) : countLines b = (lossyLines b).length := by
  unfold countLines lossyLines
  rw [List.length_map]

/-! ### non-vacuity -/

-- "a\nb\r\n"
example : lossyLines [97, 10, 98, 13, 10] = [[97], [98]] := by decide +kernel
example : countLines [97, 10, 98, 13, 10] = 2 := by decide +kernel
example : splitLF [97, 10, 98, 13, 10] = [[97, 10], [98, 13, 10]] := by decide +kernel
-- "a\nb": the quirk, the last line loses its only byte
example : lossyLines [97, 10, 98] = [[97], []] := by decide +kernel
example : countLines [97, 10, 98] = 2 := by decide +kernel
-- "", "\n", "\r\n", "x\r"
example : lossyLines [] = [] ∧ countLines [] = 0 := by decide +kernel
example : lossyLines [10] = [[]] ∧ countLines [10] = 1 := by decide +kernel
example : lossyLines [13, 10] = [[]] ∧ countLines [13, 10] = 1 := by decide +kernel
example : lossyLines [120, 13] = [[120]] ∧ countLines [120, 13] = 1 := by decide +kernel
-- only one carriage return is removed
example : lossyLines [120, 13, 13, 10] = [[120, 13]] := by decide +kernel

end Tu.C07

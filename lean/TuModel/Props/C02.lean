/-
  C02 — BPE tokenisation only regroups bytes: for every well-formed merge table and every word of
  bytes the ids produced by the merge loop (`Tu.mergeWordImpl`) decode, token by token, to byte
  strings whose concatenation is the word, and every id is a vocabulary id (`< 256 + |table|`);
  the words produced by the splitter (`\s+\S+|^\S+`, `Tu.splitWords`) concatenate to the text
  without its trailing white space.

  End to end, `bpe_roundtrip`: for every configuration accepted by `mkBpeCfg`
  (any `max_vocab_size`), `tokenize` then `de_tokenize` (special tokens ignored) returns the text
  without its trailing white space, as valid UTF-8, and every emitted id is a vocabulary id.
-/
import TuModel.Lemmas.BpeMerge
import TuModel.Lemmas.SplitL
import TuModel.Lemmas.BpeE2E
import TuModel.Lemmas.SpecialL
import TuModel.Lemmas.Utf8L
namespace Tu.C02
open Tu

/-- bytes of a token id of the BPE vocabulary: single bytes, then table entries by merge id -/
def idBytes (t : MTable) (id : Nat) : List Nat := if id < 256 then [id] else (tbytes t (id - 256)).getD []

/-- the merge loop only regroups bytes: the token byte strings concatenate to the word -/
theorem mergeWordImpl_concat (t : MTable) (w : List Nat) (hwf : wfTable t = true) (hw : ∀ b ∈ w, b < 256) :
    ∃ ids, mergeWordImpl t w = some ids ∧ ids.flatMap (idBytes t) = w ∧ ∀ id ∈ ids, id < 256 + t.length := by
  obtain ⟨ids, h1, _, h3, h4⟩ := mergeWordImpl_run t w hwf hw
  exact ⟨ids, h1, h3, h4⟩

/-- `idBytes` agrees with the model's vocabulary function on vocabulary ids -/
theorem idBytes_eq_bpeIdBytes (cfg : BpeCfg) (id : Nat) (b : List Nat) (h : bpeIdBytes cfg id = some b) :
    idBytes cfg.table id = b := by
  unfold bpeIdBytes at h
  unfold idBytes
  by_cases h1 : id < 256
  · rw [if_pos h1] at h ⊢; simpa using h
  · rw [if_neg h1] at h ⊢
    by_cases h2 : id < 256 + cfg.table.length
    · rw [if_pos h2] at h; rw [h]; rfl
    · rw [if_neg h2] at h; simp at h

def dropTrailingWs (s : List Nat) : List Nat := (s.reverse.dropWhile isWsCp).reverse

/-- words produced by the splitter concatenate to the text without its trailing whitespace -/
theorem splitWords_flatten (s : List Nat) : (splitWords s).flatten = dropTrailingWs s :=
  Tu.splitWords_flatten s

/-! non-vacuity -/
example : wfTable [([97, 98], 0), ([99, 100], 1), ([97, 98, 99], 2), ([97, 98, 99, 100], 3)] = true := by decide +kernel
example : mergeWordImpl [([97, 98], 0), ([99, 100], 1), ([97, 98, 99], 2), ([97, 98, 99, 100], 3)]
    [97, 98, 99, 100] = some [259] := by decide +kernel
example : [259].flatMap (idBytes [([97, 98], 0), ([99, 100], 1), ([97, 98, 99], 2), ([97, 98, 99, 100], 3)])
    = [97, 98, 99, 100] := by decide +kernel
example : ∃ ids, mergeWordImpl [([97, 98], 0), ([99, 100], 1), ([97, 98, 99], 2), ([97, 98, 99, 100], 3)]
    [97, 98, 99, 100, 97, 98] = some ids ∧
    ids.flatMap (idBytes [([97, 98], 0), ([99, 100], 1), ([97, 98, 99], 2), ([97, 98, 99, 100], 3)])
      = [97, 98, 99, 100, 97, 98] ∧ ∀ id ∈ ids, id < 256 + 4 :=
  mergeWordImpl_concat _ _ (by decide +kernel) (by decide +kernel)
example : (splitWords [32, 97, 98, 32, 32, 99, 32]).flatten = [32, 97, 98, 32, 32, 99] := by
  rw [splitWords_flatten]; decide +kernel

/-! ### end to end: `tokenize` then `de_tokenize` -/

/-- the UTF-8 encoding of scalar values is valid UTF-8 and consists of bytes -/
theorem utf8_bytes (c : Nat) (hc : isScalar c = true) : ∀ b ∈ utf8 c, b < 256 :=
  (of_singleCp (singleCp_utf8 c hc)).2

theorem validUtf8_utf8 (cps : List Nat) (h : ∀ c ∈ cps, isScalar c = true) :
    validUtf8 (cps.flatMap utf8) = true := by
  induction cps with
  | nil => rfl
  | cons c cps ih =>
    rw [List.flatMap_cons, validUtf8_utf8_append c (h c List.mem_cons_self)]
    exact ih (fun x hx => h x (List.mem_cons_of_mem _ hx))

/-- truncation by max_vocab_size keeps a well-formed table well-formed -/
theorem truncateTable_wf (t : MTable) (mv : Option Nat) (k : Nat) (h : wfTable t = true) :
    wfTable (truncateTable t mv k) = true := by
  cases mv with
  | none => exact h
  | some lim =>
    show wfTable (t.filter (fun e => decide (e.2 < lim - k - 256))) = true
    generalize lim - k - 256 = L
    obtain ⟨h1, h2, h3⟩ := wfTable_iff.1 h
    have hsub : ∀ e ∈ t.filter (fun e => decide (e.2 < L)), e ∈ t ∧ e.2 < L := fun e he =>
      ⟨(List.mem_filter.1 he).1, of_decide_eq_true (List.mem_filter.1 he).2⟩
    -- the kept ids are distinct and below `L`
    have hlen : (t.filter (fun e => decide (e.2 < L))).length ≤ L := by
      have := (((ids_perm_range fun k hk => mem_of_once (h1 k hk)).nodup_iff.1 List.nodup_range).sublist
        (List.filter_sublist.map _)).length_le_of_subset (l₂ := List.range L) fun k hk => by
          obtain ⟨e, he, rfl⟩ := List.mem_map.1 hk
          exact List.mem_range.2 (hsub e he).2
      rwa [List.length_map, List.length_range] at this
    have hu : ∀ e1 ∈ t.filter (fun e => decide (e.2 < L)), ∀ e2 ∈ t.filter (fun e => decide (e.2 < L)),
        e1.1 = e2.1 → e1 = e2 :=
      fun e1 m1 e2 m2 => wf_keys_unique h e1 (hsub e1 m1).1 e2 (hsub e2 m2).1
    refine wfTable_iff.2 ⟨fun j hj => ?_, fun e he => ?_, fun e he => ?_⟩
    · rw [List.filter_filter, ← h1 j (Nat.lt_of_lt_of_le hj (List.length_filter_le _ _))]
      congr 1
      apply List.filter_congr
      intro e _
      cases hb : e.2 == j
      · rfl
      · rw [eq_of_beq hb, decide_eq_true (Nat.lt_of_lt_of_le hj hlen)]; rfl
    · apply Nat.le_antisymm
      · rw [← h2 e (hsub e he).1]
        exact (List.Sublist.filter _ List.filter_sublist).length_le
      · exact List.length_pos_of_mem (List.mem_filter.2 ⟨he, beq_self_eq_true _⟩)
    · obtain ⟨het, heL⟩ := hsub e he
      obtain ⟨hb, p, hp, hl, hr⟩ := h3 e het
      have mono : ∀ b, isTokenBefore t e.2 b = true →
          isTokenBefore (t.filter (fun e => decide (e.2 < L))) e.2 b = true := fun b =>
        isTokenBefore_mono fun j hj hje =>
          tlookup_of_mem hu (List.mem_filter.2 ⟨tlookup_mem hj, decide_eq_true (Nat.lt_trans hje heL)⟩)
      exact ⟨hb, p, hp, mono _ hl, mono _ hr⟩

/-- text level: the ids of a text decode to the text without its trailing whitespace -/
theorem mergeText_decode (t : MTable) (hwf : wfTable t = true) (cps : List Nat)
    (hs : ∀ c ∈ cps, isScalar c = true) :
    ∃ ids, mergeText t cps = some ids ∧ ids.flatMap (idBytes t) = (dropTrailingWs cps).flatMap utf8 ∧
      ∀ id ∈ ids, id < 256 + t.length := by
  have hw : ∀ w ∈ splitWords cps, ∃ ids, mergeWordImpl t (w.flatMap utf8) = some ids ∧
      ids.flatMap (idBytes t) = w.flatMap utf8 ∧ ∀ id ∈ ids, id < 256 + t.length := by
    intro w hw
    apply mergeWordImpl_concat t (w.flatMap utf8) hwf
    intro b hb
    obtain ⟨c, hc, hbc⟩ := List.mem_flatMap.mp hb
    have hc' : c ∈ (splitWords cps).flatten := List.mem_flatten.mpr ⟨w, hw, hc⟩
    rw [splitWords_flatten] at hc'
    exact utf8_bytes c (hs c (mem_of_mem_dropTrailWs cps c hc')) b hbc
  obtain ⟨idss, h1, h2, h3⟩ := mapM_flatten_decode (fun w => mergeWordImpl t (w.flatMap utf8)) (idBytes t)
    (fun w => w.flatMap utf8) (fun id => id < 256 + t.length) (splitWords cps) hw
  refine ⟨idss.flatten, ?_, ?_, h3⟩
  · unfold mergeText; rw [h1]; rfl
  · rw [h2, ← splitWords_flatten, ← List.flatMap_id, List.flatMap_assoc]
    rfl

/-- **BPE tokenization is lossless**: for every configuration accepted by the constructor (well-formed table, any
max_vocab_size, prefix / suffix lists), tokenizing a text with special tokens ignored and decoding with special tokens
ignored returns the text without its trailing whitespace, as valid UTF-8; every emitted id is a vocabulary id -/
theorem bpe_roundtrip (t : MTable) (mv : Option Nat) (tokens : List (List Nat)) (pad : List Nat) (pre suf : List (List Nat))
    (cfg : BpeCfg) (hcfg : mkBpeCfg t mv tokens pad pre suf = some cfg) (hwf : wfTable t = true)
    (cps : List Nat) (hs : ∀ c ∈ cps, isScalar c = true) :
    ∃ ids, bpeTokenize cfg [Sum.inl cps] = some ids ∧
      bpeDetok cfg ids true = some ((dropTrailingWs cps).flatMap utf8) ∧ ∀ id ∈ ids, id < bpeVocabSize cfg := by
  obtain ⟨htab, hsp⟩ := mkBpeCfg_spec hcfg
  have hwf' : wfTable cfg.table = true := by rw [htab]; exact truncateTable_wf t mv _ hwf
  obtain ⟨ho, _, hids⟩ := mkSpecial_ids hsp
  -- prefix and suffix ids are special ids: at or above the table, below the vocabulary size
  have hps : ∀ id ∈ cfg.sp.prefixIds ++ cfg.sp.suffixIds,
      256 + cfg.table.length ≤ id ∧ id < bpeVocabSize cfg := fun id hid => by
    have := idToToken_isSome (hids id (List.mem_cons_of_mem _ hid))
    rw [bpeVocabSize]; omega
  obtain ⟨m, hm1, hm2, hm3⟩ := mergeText_decode cfg.table hwf' cps hs
  refine ⟨cfg.sp.prefixIds ++ m ++ cfg.sp.suffixIds, ?_, ?_, ?_⟩
  · simp [bpeTokenize, hm1]
  · -- ignoring special tokens drops the prefix and suffix ids and keeps those of the text
    have hskip : ∀ {l}, l ⊆ cfg.sp.prefixIds ++ cfg.sp.suffixIds → l.filter (· < 256 + cfg.table.length) = [] :=
      fun hl => List.filter_eq_nil_iff.2 fun id hid h => Nat.not_lt.2 (hps id (hl hid)).1 (of_decide_eq_true h)
    have hv : validUtf8 ((dropTrailingWs cps).flatMap utf8) = true :=
      validUtf8_utf8 _ (fun c hc => hs c (mem_of_mem_dropTrailWs cps c hc))
    rw [bpeDetok, bpeDetokBytes_ignore cfg (tbytes_isSome_of_wf hwf'), List.filter_append, List.filter_append,
      hskip (List.subset_append_left _ _), hskip (List.subset_append_right _ _),
      List.filter_eq_self.2 fun id hid => decide_eq_true (hm3 id hid), List.nil_append, List.append_nil]
    exact (congrArg (fun b => if validUtf8 b then some b else none) hm2).trans (if_pos hv)
  · intro id hid
    simp only [List.mem_append] at hid
    rcases hid with (hid | hid) | hid
    · exact (hps id (List.mem_append_left _ hid)).2
    · have := hm3 id hid; rw [bpeVocabSize]; omega
    · exact (hps id (List.mem_append_right _ hid)).2

/-! non-vacuity of the end-to-end statement -/
example : ∃ cfg, mkBpeCfg [([97, 98], 0), ([99, 100], 1), ([97, 98, 99], 2), ([97, 98, 99, 100], 3)] (some 260)
    [[60, 115, 62], [60, 112, 62]] [60, 112, 62] [[60, 115, 62]] [[60, 112, 62]] = some cfg ∧
    bpeTokenize cfg [Sum.inl [97, 98, 99, 100, 32, 233, 32]] = some [258, 256, 257, 32, 195, 169, 259] ∧
    bpeDetok cfg [258, 256, 257, 32, 195, 169, 259] true = some [97, 98, 99, 100, 32, 195, 169] := by
  refine ⟨_, rfl, ?_, ?_⟩ <;> decide +kernel

end Tu.C02

/-
  C06, machine arithmetic: the model's batch-limit value `limOf` (Model/Batch.lean) is the code's saturating
  product (`limOfU_eq_limOf`, `cap_eq`: the mirror `satMulU` / `limOfU` of Model/BatchU.lean).  It decides every
  comparison with a batch limit below `usize::MAX` as the mathematical value `limOfExact` does (`limOf_gt_iff`,
  `limOf_le_iff`; the bound is sharp, last example); the buffer-fill comparison, whose right side saturates too, is the
  exact one while the buffer's padded size fits a `usize` (`fill_le_iff`).  At the end the accounting before the repair.
-/
import TuModel.Model.BatchU
namespace Tu.C06u
open Tu

/-- the two spellings of `usize::MAX` -/
theorem usizeMax_eq : usizeMax = U64 - 1 := rfl

theorem satMulU_eq (a b : Nat) : satMulU a b = min (a * b) usizeMax := by
  unfold satMulU
  split
  next h => exact (Nat.min_eq_left (Nat.le_of_lt_succ h)).symm
  next h => exact (Nat.min_eq_right (Nat.le_of_lt (Nat.le_of_not_lt h))).symm

theorem satMulU_lt (a b : Nat) : satMulU a b < U64 := by
  unfold satMulU U64; split <;> omega

/-- the mirror written with `usize::saturating_mul` is the model's `limOf` -/
theorem limOfU_eq_limOf (padded : Bool) (count maxSize : Nat) : limOfU padded count maxSize = limOf padded count maxSize := by
  unfold limOfU limOf
  cases padded
  · rfl
  · simp only [if_true]; exact satMulU_eq _ _

/-- the buffer bound of `stepAllowed` is `batch_limit.saturating_mul(prefetch_factor)` -/
theorem cap_eq (cfg : BCfg) : min (cfg.lim * cfg.pf) usizeMax = satMulU cfg.lim cfg.pf := (satMulU_eq _ _).symm

/-- the model's value is the mathematical value cut off at `usize::MAX` (padded size), resp. the count itself -/
theorem limOf_eq_min (padded : Bool) (count maxSize : Nat) :
    limOf padded count maxSize =
      if padded then min (limOfExact padded count maxSize) usizeMax else limOfExact padded count maxSize := by
  unfold limOf limOfExact
  cases padded <;> simp

/-- the same, uniformly, for every count a `usize` can hold -/
theorem limOf_eq_min' (padded : Bool) (count maxSize : Nat) (hc : count ≤ usizeMax) :
    limOf padded count maxSize = min (limOfExact padded count maxSize) usizeMax := by
  rw [limOf_eq_min]
  cases padded
  · exact (Nat.min_eq_left hc).symm
  · rfl

theorem limOf_le_exact (padded : Bool) (count maxSize : Nat) : limOf padded count maxSize ≤ limOfExact padded count maxSize := by
  rw [limOf_eq_min]
  split
  · exact Nat.min_le_left ..
  · exact Nat.le_refl _

/-- no saturation while the padded size fits into a `usize` -/
theorem limOf_eq_exact (padded : Bool) (count maxSize : Nat) (h : count * maxSize < U64) :
    limOf padded count maxSize = limOfExact padded count maxSize := by
  rw [limOf_eq_min]
  split
  · rename_i hp
    refine Nat.min_eq_left (Nat.le_of_lt_succ ?_)
    rw [limOfExact, if_pos hp]
    exact h
  · rfl

/-- `batch_from`: "adding the item would overshoot" is the exact decision, for every batch limit below `usize::MAX`
and ALL item sizes and counts -/
theorem limOf_gt_iff (padded : Bool) (count maxSize limit : Nat) (hl : limit < usizeMax) :
    limOf padded count maxSize > limit ↔ limOfExact padded count maxSize > limit := by
  rw [limOf_eq_min]
  cases padded
  · exact Iff.rfl
  · exact Nat.lt_min.trans (and_iff_left hl)

/-- "the batch satisfies the limit" is the exact statement, for every batch limit below `usize::MAX` -/
theorem limOf_le_iff (padded : Bool) (count maxSize limit : Nat) (hl : limit < usizeMax) :
    limOf padded count maxSize ≤ limit ↔ limOfExact padded count maxSize ≤ limit :=
  Nat.not_lt.symm.trans ((not_congr (limOf_gt_iff padded count maxSize limit hl)).trans Nat.not_lt)

/-- the same for a list of items (`BatchLimit::from_items(items).limit()`) -/
theorem itemsLimit_le_iff (padded : Bool) (l : List Item) (limit : Nat) (hl : limit < usizeMax) :
    itemsLimit padded l ≤ limit ↔ limOfExact padded l.length (maxSize l) ≤ limit :=
  limOf_le_iff padded _ _ limit hl

/-- the buffer fill condition `limit() <= batch_limit.saturating_mul(prefetch_factor)` is the exact comparison
`count * max size ≤ limit * prefetch factor` whenever the buffer's own padded size fits into a `usize` (a buffer whose
padded size is 2^64 or more would stop the filling by the exact comparison; the saturated comparison may read one
more item when `limit * prefetch factor` saturates too) -/
theorem fill_le_iff (padded : Bool) (count maxSize lim pf : Nat) (hc : count < U64) (h : count * maxSize < U64) :
    limOf padded count maxSize ≤ min (lim * pf) usizeMax ↔ limOfExact padded count maxSize ≤ lim * pf := by
  rw [limOf_eq_exact padded count maxSize h, Nat.le_min]
  refine and_iff_left (Nat.le_of_lt_succ ?_)
  unfold limOfExact
  split
  · exact h
  · exact hc

/-- without the size hypothesis one direction remains: the exact comparison implies the code's -/
theorem fill_le_of_exact (padded : Bool) (count maxSize lim pf : Nat) (hc : count < U64)
    (h : limOfExact padded count maxSize ≤ lim * pf) : limOf padded count maxSize ≤ min (lim * pf) usizeMax := by
  rw [Nat.le_min, limOf_eq_min]
  cases padded
  · exact ⟨h, Nat.le_of_lt_succ hc⟩
  · exact ⟨Nat.le_trans (Nat.min_le_left ..) h, Nat.min_le_right ..⟩

/-- the differential finding that made the model saturating: item sizes 2^64-1, prefetch factor 3, limit 2^64-2.
With three items buffered the exact comparison stops the filling, the code's saturated one goes on -/
example : limOf true 3 (2 ^ 64 - 1) ≤ min ((2 ^ 64 - 2) * 3) usizeMax ∧ ¬ limOfExact true 3 (2 ^ 64 - 1) ≤ (2 ^ 64 - 2) * 3 := by
  decide +kernel

/-- the accounting before the repair D17 overflows exactly when the padded size does not fit -/
theorem limOfOldU_none_iff (count maxSize : Nat) : limOfOldU true count maxSize = none ↔ U64 ≤ count * maxSize := by
  unfold limOfOldU mulU
  simp only [if_true]
  split <;> simp <;> omega

/-- ... and otherwise computed the mathematical value -/
theorem limOfOldU_ok (padded : Bool) (count maxSize : Nat) (h : count * maxSize < U64) :
    limOfOldU padded count maxSize = some (limOfExact padded count maxSize) := by
  unfold limOfOldU limOfExact mulU
  cases padded <;> simp [h]

/-- ... which is then also the value of the repaired code -/
theorem limOfOldU_ok' (padded : Bool) (count maxSize : Nat) (h : count * maxSize < U64) :
    limOfOldU padded count maxSize = some (limOf padded count maxSize) := by
  rw [limOf_eq_exact padded count maxSize h]; exact limOfOldU_ok padded count maxSize h

/-- D17, debug build: two items of 2^63 tokens make the multiplication overflow -/
example : limOfOldU true 2 (2 ^ 63) = none := by decide +kernel
/-- D17, release build: the wrapped product is 0, so two items whose padded size is 2^64 pass ANY limit -/
example : limOfOldWrap true 2 (2 ^ 63) = 0 ∧ limOfExact true 2 (2 ^ 63) = 2 ^ 64 := by decide +kernel
/-- as repaired: the saturated value is above every limit below `usize::MAX` -/
example : limOf true 2 (2 ^ 63) = usizeMax ∧ limOfU true 2 (2 ^ 63) = U64 - 1 := by decide +kernel
/-- the bound on the limit is sharp: with `batch_limit = usize::MAX` (the crate's "no limit") the saturated value is
not above the limit although the exact product is -/
example : ¬ (limOf true 2 (2 ^ 63) > usizeMax) ∧ limOfExact true 2 (2 ^ 63) > usizeMax := by decide +kernel

end Tu.C06u

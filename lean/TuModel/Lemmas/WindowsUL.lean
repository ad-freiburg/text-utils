/-
  The checked-arithmetic mirror Model/WindowsU.lean of `windows::char` / `windows::byte`: under explicit size bounds no
  checked operation yields `none` and the mirror computes the `Nat` model.
-/
import TuModel.Model.WindowsU
import TuModel.Lemmas.WindowsL
namespace Tu

theorem U64_eq : U64 = 2 ^ 64 := rfl

theorem addU_eq {a b : Nat} (h : a + b < U64) : addU a b = some (a + b) := by
  unfold addU; rw [if_pos h]

theorem mulU_eq {a b : Nat} (h : a * b < U64) : mulU a b = some (a * b) := by
  unfold mulU; rw [if_pos h]

theorem subU_eq {a b : Nat} (h : b ≤ a) : subU a b = some (a - b) := by
  unfold subU; rw [if_pos h]

theorem addU_none {a b : Nat} (h : U64 ≤ a + b) : addU a b = none := by
  unfold addU; rw [if_neg (by omega)]

theorem mulU_none {a b : Nat} (h : U64 ≤ a * b) : mulU a b = none := by
  unfold mulU; rw [if_neg (by omega)]

theorem winLenU_eq (maxLen ctx ws : Nat) (hcfg : 2 * ctx < maxLen) (hm : maxLen < U64) :
    winLenU maxLen ctx ws = some (winLen maxLen ctx ws) := by
  have h1 : addU 1 0 = some 1 := rfl
  have h2 : addU 1 1 = some 2 := rfl
  by_cases h0 : ws = 0
  · simp only [winLenU, winLen, h0, Nat.lt_irrefl, gt_iff_lt, if_false, if_true, h1,
      mulU_eq (show 1 * ctx < U64 by omega), Nat.one_mul, subU_eq (show ctx ≤ maxLen by omega)]
  · simp only [winLenU, winLen, h0, Nat.pos_of_ne_zero h0, if_false, if_true, h2,
      mulU_eq (show 2 * ctx < U64 by omega), subU_eq (Nat.le_of_lt hcfg)]

/-- the accumulating fold of the code, `acc` bytes in and `b` bytes of budget left, computes the budget-subtracting
`countUntil` of the model -/
theorem countUntilGo_eq (ls : List Nat) :
    ∀ (b count acc : Nat), acc + ls.sum < U64 → count + ls.length < U64 →
      countUntilGo ls (acc + b) count acc = some (count + countUntil ls b) := by
  induction ls with
  | nil => intro b count acc _ _; rfl
  | cons l ls ih =>
    intro b count acc hs hc
    rw [List.sum_cons, ← Nat.add_assoc] at hs
    rw [List.length_cons, ← Nat.add_assoc, Nat.add_right_comm] at hc
    simp only [countUntilGo, countUntil, addU_eq (Nat.lt_of_le_of_lt (Nat.le_add_right ..) hs),
      addU_eq (Nat.lt_of_le_of_lt (Nat.le_add_right ..) hc), gt_iff_lt, Nat.add_lt_add_iff_left]
    by_cases hgt : b < l
    · rw [if_pos hgt, if_pos hgt]; rfl
    · rw [if_neg hgt, if_neg hgt]
      have := ih (b - l) (count + 1) (acc + l) hs hc
      rw [Nat.add_assoc acc, Nat.add_sub_cancel' (Nat.le_of_not_lt hgt)] at this
      rw [this, Nat.add_assoc]

theorem countUntilU_eq (ls : List Nat) (m : Nat) (hs : ls.sum < U64) (hc : ls.length < U64) :
    countUntilU ls m = some (countUntil ls m) := by
  have := countUntilGo_eq ls m 0 0 (by rwa [Nat.zero_add]) (by rwa [Nat.zero_add])
  rwa [Nat.zero_add, Nat.zero_add] at this

/-- from a position the code can reach (`ws = 0`, or the first window did not already cover the text:
`maxLen - ctx < n`) the largest sum `char` forms fits into `usize` when the text has at most `2^63` characters,
and the next position can be reached in the same sense -/
theorem char_reach {n maxLen ctx ws : Nat} (hcfg : 2 * ctx < maxLen) (hm : maxLen < U64) (hn : 2 * n ≤ U64)
    (h : ws < n) (hinv : ws = 0 ∨ maxLen - ctx < n) :
    ws + winLen maxLen ctx ws + ctx < U64 ∧ (min n (ws + winLen maxLen ctx ws) < n → maxLen - ctx < n) := by
  unfold winLen
  split <;> omega

theorem charLoopU_eq (lens : List Nat) (maxLen ctx : Nat) (hcfg : 2 * ctx < maxLen) (hm : maxLen < U64)
    (hn : 2 * lens.length ≤ U64) (ws : Nat) (hinv : ws < lens.length → ws = 0 ∨ maxLen - ctx < lens.length) :
    charLoopU lens maxLen ctx ws = some (charLoop lens maxLen ctx ws) := by
  rw [charLoopU, charLoop]
  by_cases h : ws < lens.length
  · obtain ⟨b, hnext⟩ := char_reach hcfg hm hn h (hinv h)
    simp only [dif_pos h, winLenU_eq maxLen ctx ws hcfg hm, addU_eq (Nat.lt_of_le_of_lt (Nat.le_add_right ..) b),
      addU_eq b]
    split
    · rfl
    · rw [charLoopU_eq lens maxLen ctx hcfg hm hn _ fun hlt => .inr (hnext hlt)]
      cases charLoop lens maxLen ctx (min lens.length (ws + winLen maxLen ctx ws)) <;> rfl
  · rw [dif_neg h, dif_neg h]
termination_by lens.length - ws
decreasing_by omega

theorem byteLoopU_eq (lens : List Nat) (maxB ctx : Nat) (hcfg : 2 * ctx < maxB) (hm : maxB < U64)
    (hs : lens.sum < U64) (hn : lens.length < U64) (ws : Nat) :
    byteLoopU lens maxB ctx ws = some (byteLoop lens maxB ctx ws) := by
  rw [byteLoopU, byteLoop]
  by_cases h : ws < lens.length
  · have hU : ∀ ls m, ls.sum ≤ lens.sum → ls.length ≤ lens.length → countUntilU ls m = some (countUntil ls m) :=
      fun ls m h1 h2 => countUntilU_eq ls m (Nat.lt_of_le_of_lt h1 hs) (Nat.lt_of_le_of_lt h2 hn)
    have hd : ∀ j m, countUntilU (lens.drop j) m = some (countUntil (lens.drop j) m) := fun j m =>
      hU _ m (sum_drop_le lens j) (by rw [List.length_drop]; exact Nat.sub_le ..)
    have hwe := countUntil_drop_le lens ws (winLen maxB ctx ws) (Nat.le_of_lt h)
    have hce := countUntil_drop_le lens _ ctx hwe
    simp only [dif_pos h, winLenU_eq maxB ctx ws hcfg hm, hd, addU_eq (Nat.lt_of_le_of_lt hwe hn),
      addU_eq (Nat.lt_of_le_of_lt hce hn),
      hU (lens.take ws).reverse ctx (sum_take_rev_le lens ws)
        (by rw [List.length_reverse, List.length_take]; exact Nat.min_le_right ..)]
    by_cases hz : countUntil (lens.drop ws) (winLen maxB ctx ws) = 0
    · rw [dif_pos hz, dif_pos (Nat.le_of_eq (by rw [hz]; rfl))]
    · rw [dif_neg hz, dif_neg (by omega), byteLoopU_eq lens maxB ctx hcfg hm hs hn]
      cases byteLoop lens maxB ctx (ws + countUntil (lens.drop ws) (winLen maxB ctx ws)) <;> rfl
  · rw [dif_neg h, dif_neg h]
termination_by lens.length - ws
decreasing_by omega

end Tu

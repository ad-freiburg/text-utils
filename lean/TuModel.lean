import TuModel.Model.Basic
import TuModel.Model.Wire
import TuModel.Model.Text
import TuModel.Model.Whitespace
import TuModel.Drive.TextD
import TuModel.Model.Edit
import TuModel.Drive.EditD
import TuModel.Model.Match
import TuModel.Drive.MatchD
import TuModel.Model.Windows
import TuModel.Drive.WindowsD
import TuModel.Model.Special
import TuModel.Model.ByteTok
import TuModel.Model.CharTok
import TuModel.Model.Bpe
import TuModel.Drive.TokD
import TuModel.Model.Batch
import TuModel.Drive.BatchD
import TuModel.Model.MultiGen
import TuModel.Drive.MultiGenD
import TuModel.Model.Pipe
import TuModel.Drive.PipeD
import TuModel.Model.Metrics
import TuModel.Drive.MetricsD
import TuModel.Model.Corrupt
import TuModel.Drive.CorruptD
import TuModel.Model.Dict
import TuModel.Model.DictFile
import TuModel.Drive.DictD
import TuModel.Model.BpeTrain
import TuModel.Drive.BpeTrainD
import TuModel.Model.Groups
import TuModel.Drive.GroupsD
import TuModel.Model.Loader
import TuModel.Drive.LoaderD
import TuModel.Model.BpeTrainInc
import TuModel.Model.WindowsU
import TuModel.Model.Lines
import TuModel.Model.CharString
import TuModel.Model.LoaderU
import TuModel.Model.FindSub
import TuModel.Model.BatchU
import TuModel.Drive.CharStringD
import TuModel.Lemmas.BatchL
import TuModel.Lemmas.BpeCells
import TuModel.Lemmas.BpeE2E
import TuModel.Lemmas.BpeMerge
import TuModel.Lemmas.BpeSpec
import TuModel.Lemmas.BpeTrainL
import TuModel.Lemmas.BpeTrainLoops
import TuModel.Lemmas.BpeTrainRun
import TuModel.Lemmas.BpeTrainStats
import TuModel.Lemmas.BpeTrainStep
import TuModel.Lemmas.BpeTrainWord
import TuModel.Lemmas.BpeWf
import TuModel.Lemmas.BufL
import TuModel.Lemmas.CharStringL
import TuModel.Lemmas.CorruptL
import TuModel.Lemmas.WhitespaceL
import TuModel.Lemmas.DictFileL
import TuModel.Lemmas.DictL
import TuModel.Lemmas.EditL
import TuModel.Lemmas.EditScript
import TuModel.Lemmas.EditTable
import TuModel.Lemmas.FindSubL
import TuModel.Lemmas.FlatTable
import TuModel.Lemmas.GroupWordsL
import TuModel.Lemmas.GroupWordsWithL
import TuModel.Lemmas.GroupsL
import TuModel.Lemmas.LinesL
import TuModel.Lemmas.ListL
import TuModel.Lemmas.LoaderL
import TuModel.Lemmas.LoaderUL
import TuModel.Lemmas.MatchAcceptL
import TuModel.Lemmas.MatchL
import TuModel.Lemmas.MatchTable
import TuModel.Lemmas.MetricsL
import TuModel.Lemmas.MultiGenL
import TuModel.Lemmas.PipeInv
import TuModel.Lemmas.PipeL
import TuModel.Lemmas.PipeProg
import TuModel.Lemmas.ScriptAcceptL
import TuModel.Lemmas.SpecialL
import TuModel.Lemmas.SpellCalibL
import TuModel.Lemmas.SplitL
import TuModel.Lemmas.SubseqL
import TuModel.Lemmas.TextL
import TuModel.Lemmas.Utf8L
import TuModel.Lemmas.WindowsL
import TuModel.Lemmas.WindowsUL
import TuModel.Props.C01
import TuModel.Props.C02
import TuModel.Props.C03
import TuModel.Props.C04
import TuModel.Props.C05
import TuModel.Props.C06
import TuModel.Props.C06u
import TuModel.Props.C07
import TuModel.Props.C08
import TuModel.Props.C08u
import TuModel.Props.C09
import TuModel.Props.C10
import TuModel.Props.C11
import TuModel.Props.C11fs
import TuModel.Props.C12
import TuModel.Props.C13
import TuModel.Props.C14
import TuModel.Props.C15
import TuModel.Props.C16
import TuModel.Props.C16cs
import TuModel.Props.C17
import TuModel.Props.C18
import TuModel.Props.C19
import TuModel.Props.C20

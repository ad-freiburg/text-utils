/-
  The `Nat` model of the windows (Model/Windows.lean): prefix sums `byteOf`, `count_until`, `window_length`, and the
  validity check of the two wrappers.
-/
import TuModel.Model.Windows
namespace Tu

theorem byteOf_zero (l : List Nat) : byteOf l 0 = 0 := rfl

theorem byteOf_nil (k : Nat) : byteOf [] k = 0 := by simp [byteOf]

theorem byteOf_add (l : List Nat) (a k : Nat) :
    byteOf l (a + k) = byteOf l a + ((l.drop a).take k).sum := by
  unfold byteOf
  rw [← List.sum_append, List.take_add]

theorem byteOf_mono (l : List Nat) {a b : Nat} (h : a ≤ b) : byteOf l a ≤ byteOf l b := by
  obtain ⟨d, rfl⟩ := Nat.exists_eq_add_of_le h
  rw [byteOf_add]
  exact Nat.le_add_right ..

theorem byteOf_succ (l : List Nat) (n : Nat) (h : n < l.length) :
    byteOf l (n + 1) = byteOf l n + l[n] := by
  unfold byteOf
  rw [List.take_succ_eq_append_getElem h, List.sum_append]; simp

theorem byteOf_append (a b : List Nat) (j : Nat) :
    byteOf (a ++ b) j = byteOf a j + byteOf b (j - a.length) := by
  unfold byteOf
  rw [List.take_append, List.sum_append]

theorem byteOf_replicate (c v j : Nat) : byteOf (List.replicate c v) j = min j c * v := by
  unfold byteOf
  rw [List.take_replicate, List.sum_replicate_nat]

theorem byteOf_replicate_append_le (c v : Nat) (r : List Nat) {j : Nat} (h : j ≤ c) :
    byteOf (List.replicate c v ++ r) j = j * v := by
  rw [byteOf_append, byteOf_replicate, List.length_replicate, Nat.min_eq_left h, Nat.sub_eq_zero_of_le h, byteOf_zero,
    Nat.add_zero]

theorem byteOf_replicate_append_add (c v : Nat) (r : List Nat) (j : Nat) :
    byteOf (List.replicate c v ++ r) (c + j) = c * v + byteOf r j := by
  rw [byteOf_append, byteOf_replicate, List.length_replicate, Nat.min_eq_right (Nat.le_add_right ..),
    Nat.add_sub_cancel_left]

theorem sum_take_add_drop (l : List Nat) (k : Nat) : (l.take k).sum + (l.drop k).sum = l.sum := by
  rw [← List.sum_append, List.take_append_drop]

theorem sum_drop_le (l : List Nat) (k : Nat) : (l.drop k).sum ≤ l.sum := by
  have := sum_take_add_drop l k; omega

theorem sum_take_rev_le (l : List Nat) (k : Nat) : (l.take k).reverse.sum ≤ l.sum := by
  have := sum_take_add_drop l k
  rw [List.sum_reverse]; omega

theorem length_le_sum (lens : List Nat) (hl : ∀ l ∈ lens, 1 ≤ l) : lens.length ≤ lens.sum := by
  induction lens with
  | nil => simp
  | cons a t ih =>
    have h1 := hl a List.mem_cons_self
    have h2 := ih (fun l h => hl l (List.mem_cons_of_mem _ h))
    simp only [List.length_cons, List.sum_cons]
    omega

theorem countUntil_le (ls : List Nat) (m : Nat) : countUntil ls m ≤ ls.length := by
  induction ls generalizing m with
  | nil => exact Nat.le_refl 0
  | cons l ls ih =>
    simp only [countUntil, List.length_cons]
    split
    · omega
    · have := ih (m - l); omega

theorem countUntil_sum (ls : List Nat) (m : Nat) : (ls.take (countUntil ls m)).sum ≤ m := by
  induction ls generalizing m with
  | nil => simp [countUntil]
  | cons l ls ih =>
    simp only [countUntil]
    split
    · simp
    · have := ih (m - l)
      rw [Nat.add_comm 1, List.take_succ_cons]
      simp; omega

theorem countUntil_cons_eq_zero {l : Nat} {ls : List Nat} {m : Nat} : countUntil (l :: ls) m = 0 ↔ m < l := by
  simp only [countUntil]; split <;> omega

theorem countUntil_drop_le (lens : List Nat) (a m : Nat) (h : a ≤ lens.length) :
    a + countUntil (lens.drop a) m ≤ lens.length := by
  have := countUntil_le (lens.drop a) m
  rw [List.length_drop] at this
  omega

theorem byteOf_countUntil (lens : List Nat) (a m : Nat) :
    byteOf lens (a + countUntil (lens.drop a) m) ≤ byteOf lens a + m := by
  rw [byteOf_add]
  exact Nat.add_le_add_left (countUntil_sum ..) _

theorem byteOf_countUntil_rev (lens : List Nat) (a m : Nat) (ha : a ≤ lens.length) :
    byteOf lens a ≤ byteOf lens (a - countUntil (lens.take a).reverse m) + m := by
  have hc := countUntil_le (lens.take a).reverse m
  have hs := countUntil_sum (lens.take a).reverse m
  rw [List.length_reverse, List.length_take, Nat.min_eq_left ha] at hc
  rw [List.take_reverse, List.sum_reverse, List.length_take, Nat.min_eq_left ha, List.drop_take,
    Nat.sub_sub_self hc] at hs
  have := byteOf_add lens (a - countUntil (lens.take a).reverse m) (countUntil (lens.take a).reverse m)
  rw [Nat.sub_add_cancel hc] at this
  omega

theorem winLen_bounds (maxLen ctx ws : Nat) (hcfg : 2 * ctx < maxLen) :
    1 ≤ winLen maxLen ctx ws ∧ maxLen - 2 * ctx ≤ winLen maxLen ctx ws := by
  unfold winLen; split <;> omega

/-- the size limit of both loops, for positions `C ≤ S ≤ E` (context start, window start, context end) counted in
characters or in bytes: the context reaches at most `ctx` behind the window start and at most `winLen + ctx` beyond
it, and `winLen` leaves room for one context in the first window, where nothing lies behind, and for two in the
others -/
theorem ctx_le_max {maxLen ctx ws C S E : Nat} (hcfg : 2 * ctx < maxLen) (hC : S ≤ C + ctx) (h0 : ws = 0 → S ≤ C)
    (hE : E ≤ S + winLen maxLen ctx ws + ctx) : E - C ≤ maxLen := by
  apply Nat.sub_le_of_le_add
  unfold winLen at hE; split at hE <;> omega

theorem charWindows_valid {lens : List Nat} {maxLen ctx : Nat} (hne : lens ≠ []) (hcfg : 2 * ctx < maxLen) :
    charWindows lens maxLen ctx = charLoop lens maxLen ctx 0 := by
  rw [charWindows, List.isEmpty_eq_false_iff.mpr hne, if_neg Bool.false_ne_true, if_neg (Nat.not_le.mpr hcfg)]

theorem byteWindows_valid {lens : List Nat} {maxB ctx : Nat} (hne : lens ≠ []) (hcfg : 2 * ctx < maxB) :
    byteWindows lens maxB ctx = byteLoop lens maxB ctx 0 := by
  rw [byteWindows, List.isEmpty_eq_false_iff.mpr hne, if_neg Bool.false_ne_true, if_neg (Nat.not_le.mpr hcfg)]

end Tu

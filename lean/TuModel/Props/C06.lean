/-
  C06 — batching partitions the item stream and respects the batch limit.

  Model: `Tu.stepAllowed` (Model/Batch.lean), "from this state `build_batch` may return this batch", executable and
  replayed by the driver on every observed batch sequence of the real `Batched` iterator.  The theorems hold for EVERY
  sequence of allowed steps, i.e. for every random stream / seed, every item-size sequence and every configuration.
  The limit clauses (`Good`, `itemsLimit`, `limOf`) speak about the SATURATING product the code computes; the `*_exact`
  corollaries give them for the mathematical product `limOfExact`, for every batch limit below `usize::MAX`
  (Props/C06u.lean; sharp: with limit `usize::MAX` the saturated value never exceeds the limit).
-/
import TuModel.Lemmas.BatchL
import TuModel.Props.C06u
namespace Tu.C06
open Tu

/-- one allowed step: the batch is non-empty, within the limit unless it is a single item, and
batch + new state is a rearrangement of the old state -/
theorem step_spec (cfg : BCfg) (st : BState) (b : List Item) (st' : BState)
    (hnd : (st.buf ++ st.rest).Nodup) (h : stepAllowed cfg st b = some st') :
    b ≠ [] ∧ Good cfg.padded cfg.lim b ∧ (b ++ st'.buf ++ st'.rest).Perm (st.buf ++ st.rest) := by
  by_cases hm : cfg.sort = true ∨ cfg.shuffle = true
  · obtain ⟨hb, buf, hfb, -, hP⟩ := (stepAllowed_buffered hm st b st').mp h
    have hfill := refill_append cfg st
    rw [hfb] at hfill
    rw [← hfill] at hnd ⊢
    obtain ⟨hg, hp⟩ := hP.spec (List.nodup_append.mp hnd).1
    exact ⟨hb, hg, hp.append_right _⟩
  · obtain ⟨hb, -, rem, hbf, hbuf⟩ := (stepAllowed_plain (not_buffered hm).1 (not_buffered hm).2 st b st').mp h
    obtain ⟨h1, h2, -⟩ := batchFrom_spec _ _ _ _ _ _ hbf
    exact ⟨hb, h2, by rw [hbuf, h1]⟩

/-- **every item appears in exactly one batch**: after any sequence of allowed steps, the batches
plus what is still buffered / upstream are a rearrangement of the input; all batches are non-empty
and every batch with more than one item satisfies the limit -/
theorem run_spec (cfg : BCfg) : ∀ (bs : List (List Item)) (st st' : BState),
    (st.buf ++ st.rest).Nodup → runBatches cfg st bs = some st' →
    (bs.flatten ++ st'.buf ++ st'.rest).Perm (st.buf ++ st.rest) ∧
    (∀ b ∈ bs, b ≠ [] ∧ (1 < b.length → itemsLimit cfg.padded b ≤ cfg.lim)) := by
  intro bs
  induction bs with
  | nil => intro st st' _ h; cases h; simp
  | cons b bs ih =>
    intro st st' hnd h
    obtain ⟨st1, hs, h⟩ := (runBatches_cons ..).mp h
    obtain ⟨hne, hgood, hperm⟩ := step_spec cfg st b st1 hnd hs
    have hnd1 : (st1.buf ++ st1.rest).Nodup := by
      have := (hperm.nodup_iff).mpr hnd
      rw [List.append_assoc] at this
      exact (List.nodup_append.mp this).2.1
    obtain ⟨hp2, hall⟩ := ih st1 st' hnd1 h
    constructor
    · rw [List.flatten_cons, List.append_assoc, List.append_assoc]
      rw [List.append_assoc] at hp2 hperm
      exact (hp2.append_left b).trans hperm
    · intro x hx
      rcases List.mem_cons.mp hx with rfl | hx
      · exact ⟨hne, fun hl => hgood.resolve_left (Nat.not_le.mpr hl)⟩
      · exact hall x hx

/-- `batch_limit.max(1)` is below `usize::MAX` iff the configured limit is -/
theorem lim_lt_usizeMax_iff (cfg : BCfg) : cfg.lim < usizeMax ↔ cfg.limit < usizeMax := by
  unfold BCfg.lim usizeMax; omega

/-- `step_spec` with the mathematical padded size: for every batch limit below `usize::MAX` a batch with more than
one item has `count * max size ≤ limit` exactly (not only after saturation) -/
theorem step_spec_exact (cfg : BCfg) (st : BState) (b : List Item) (st' : BState)
    (hl : max 1 cfg.limit < usizeMax)
    (hnd : (st.buf ++ st.rest).Nodup) (h : stepAllowed cfg st b = some st') :
    b ≠ [] ∧ (b.length ≤ 1 ∨ limOfExact cfg.padded b.length (maxSize b) ≤ cfg.lim) ∧
    (b ++ st'.buf ++ st'.rest).Perm (st.buf ++ st.rest) := by
  obtain ⟨hne, hgood, hperm⟩ := step_spec cfg st b st' hnd h
  refine ⟨hne, ?_, hperm⟩
  rcases hgood with h1 | h1
  · exact Or.inl h1
  · exact Or.inr ((C06u.itemsLimit_le_iff cfg.padded b cfg.lim hl).mp h1)

/-- `run_spec` with the mathematical padded size, for every batch limit below `usize::MAX` -/
theorem run_spec_exact (cfg : BCfg) (bs : List (List Item)) (st st' : BState) (hl : max 1 cfg.limit < usizeMax)
    (hnd : (st.buf ++ st.rest).Nodup) (h : runBatches cfg st bs = some st') :
    (bs.flatten ++ st'.buf ++ st'.rest).Perm (st.buf ++ st.rest) ∧
    (∀ b ∈ bs, b ≠ [] ∧ (1 < b.length → limOfExact cfg.padded b.length (maxSize b) ≤ cfg.lim)) := by
  obtain ⟨hp, hall⟩ := run_spec cfg bs st st' hnd h
  refine ⟨hp, fun b hb => ⟨(hall b hb).1, fun h1 => ?_⟩⟩
  exact (C06u.itemsLimit_le_iff cfg.padded b cfg.lim hl).mp ((hall b hb).2 h1)

/-- complete iteration: when the iterator ended (`finished`), the batches are a permutation of the
input items — every item in exactly one batch -/
theorem batches_partition (cfg : BCfg) (items : List Item) (bs : List (List Item)) (st' : BState)
    (hnd : items.Nodup) (h : runBatches cfg { rest := items, buf := [] } bs = some st') (hf : finished st' = true) :
    bs.flatten.Perm items := by
  obtain ⟨hp, _⟩ := run_spec cfg bs _ st' (by simpa using hnd) h
  simp only [finished, Bool.and_eq_true, List.isEmpty_iff] at hf
  simpa [hf.1, hf.2] using hp

/-- the iteration terminates: every allowed step strictly shrinks buffer + upstream, so at most
`|items|` batches can ever be returned -/
theorem step_decreases (cfg : BCfg) (st : BState) (b : List Item) (st' : BState)
    (hnd : (st.buf ++ st.rest).Nodup) (h : stepAllowed cfg st b = some st') :
    st'.buf.length + st'.rest.length < st.buf.length + st.rest.length := by
  obtain ⟨hne, _, hp⟩ := step_spec cfg st b st' hnd h
  have := hp.length_eq
  simp only [List.length_append] at this
  have : 0 < b.length := List.length_pos_iff.mpr hne
  omega

/-- without sort and shuffle the step is a function (exactly one batch is allowed), the
concatenation of batch, remainder and upstream is the input order, and the batch is greedy-maximal:
the remainder would overflow it -/
theorem plain_step (cfg : BCfg) (hs : cfg.sort = false) (hsh : cfg.shuffle = false) (st : BState) (b : List Item)
    (st' : BState) (h : stepAllowed cfg st b = some st') :
    b ++ st'.buf ++ st'.rest = st.buf ++ st.rest ∧
    (∀ r, st'.buf = [r] → limOf cfg.padded (b.length + 1) (max (maxSize b) r.size) > cfg.lim) ∧
    (st'.buf = [] → st'.rest = []) ∧ st'.buf.length ≤ 1 ∧
    ∀ b2 st2, stepAllowed cfg st b2 = some st2 → b2 = b := by
  obtain ⟨-, -, rem, hbf, hbuf⟩ := (stepAllowed_plain hs hsh st b st').mp h
  obtain ⟨h1, -, h3, h4, -⟩ := batchFrom_spec _ _ _ _ _ _ hbf
  rw [hbuf]
  refine ⟨h1, ?_, ?_, ?_, ?_⟩
  · intro r hr
    cases rem with
    | none => cases hr
    | some r' => cases hr; exact (h3 _ rfl).2
  · intro hr
    cases rem with
    | none => exact h4 rfl
    | some r' => cases hr
  · cases rem <;> simp
  · intro b2 st2 h2
    obtain ⟨-, -, rem2, hbf2, -⟩ := (stepAllowed_plain hs hsh st b2 st2).mp h2
    rw [hbf] at hbf2
    exact (Prod.mk.inj hbf2).1.symm

/-- `plain_step`, greedy maximality with the mathematical padded size: for every batch limit below `usize::MAX` the
remainder would overflow the batch exactly -/
theorem plain_step_exact (cfg : BCfg) (hs : cfg.sort = false) (hsh : cfg.shuffle = false) (st : BState) (b : List Item)
    (st' : BState) (hl : max 1 cfg.limit < usizeMax) (h : stepAllowed cfg st b = some st') :
    ∀ r, st'.buf = [r] → limOfExact cfg.padded (b.length + 1) (max (maxSize b) r.size) > cfg.lim := by
  intro r hr
  exact (C06u.limOf_gt_iff cfg.padded _ _ cfg.lim hl).mp ((plain_step cfg hs hsh st b st' h).2.1 r hr)

/-! non-vacuity -/
example : (runBatches { sort := false, shuffle := false, padded := true, prefetch := 1, limit := 6 }
    { rest := [⟨0, 2⟩, ⟨1, 3⟩, ⟨2, 3⟩, ⟨3, 9⟩, ⟨4, 1⟩], buf := [] }
    [[⟨0, 2⟩, ⟨1, 3⟩], [⟨2, 3⟩], [⟨3, 9⟩], [⟨4, 1⟩]]).map finished = some true := by decide +kernel

/-- saturation: two items whose padded size is 2^64 are not put into one batch (limit 8) -/
example : (runBatches { sort := false, shuffle := false, padded := true, prefetch := 1, limit := 8 }
    { rest := [⟨0, 2 ^ 63⟩, ⟨1, 2 ^ 63⟩, ⟨2, 3⟩], buf := [] }
    [[⟨0, 2 ^ 63⟩], [⟨1, 2 ^ 63⟩], [⟨2, 3⟩]]).map finished = some true := by decide +kernel

/-- the plain-mode side condition of `step_progress` is an invariant of runs from the initial state -/
theorem plain_buf_le_one (cfg : BCfg) (hs : cfg.sort = false) (hsh : cfg.shuffle = false) :
    ∀ (bs : List (List Item)) (st st' : BState), st.buf.length ≤ 1 → runBatches cfg st bs = some st' → st'.buf.length ≤ 1 := by
  intro bs
  induction bs with
  | nil => intro st st' hl h; cases h; exact hl
  | cons b bs ih =>
    intro st st' _ h
    obtain ⟨st1, hst, h⟩ := (runBatches_cons ..).mp h
    exact ih st1 st' (plain_step cfg hs hsh st b st1 hst).2.2.2.1 h

/-- **progress**: as long as anything is buffered or left upstream, some batch is allowed — the iteration cannot get stuck
before everything has been delivered (with `step_decreases` this gives termination with a complete partition) -/
theorem step_progress (cfg : BCfg) (st : BState) (hnd : (st.buf ++ st.rest).Nodup) (hne : st.buf ++ st.rest ≠ [])
    (hplain : cfg.sort = false → cfg.shuffle = false → st.buf.length ≤ 1) :
    ∃ b st', stepAllowed cfg st b = some st' := by
  by_cases hm : cfg.sort = true ∨ cfg.shuffle = true
  · rw [← refill_append cfg st] at hnd
    obtain ⟨b, nb, hb, hP⟩ := Pick.exists hm (refill_ne cfg st hne) (List.nodup_append.mp hnd).1
    exact ⟨b, ⟨_, nb⟩, (stepAllowed_buffered hm st b _).mpr ⟨hb, _, rfl, refill_ne cfg st hne, hP⟩⟩
  · obtain ⟨hs, hsh⟩ := not_buffered hm
    cases hbf : batchFrom cfg.padded cfg.lim (st.buf ++ st.rest) with
    | mk got r =>
    exact ⟨got, ⟨r.2, _⟩, (stepAllowed_plain hs hsh st got _).mpr
      ⟨(batchFrom_spec _ _ _ _ _ _ hbf).2.2.2.2 hne, hplain hs hsh, r.1, hbf, rfl⟩⟩

end Tu.C06

/-
  C13 — metrics: precision / recall / F-beta and their averages are finite and lie in [0,1];
  calibration (perfect / no true positive); accuracy; the whitespace-correction counts are the set
  comparison of the two operation sets; pair counting; spelling counts calibration (tp, fp, fn; also for every
  admissible set of sub-results).
  Model: `Tu.f1`, `Tu.microF1`, `Tu.seqAvgF1`, `Tu.accuracy`, `Tu.countTpFpFn`, `Tu.wsCounts`,
  `Tu.spellCounts` (Model/Metrics.lean).  `Q.unit`, `Q.isOne`, `Q.isZero` are in Lemmas/MetricsL.lean.
-/
import TuModel.Lemmas.MetricsL
import TuModel.Lemmas.GroupWordsL
import TuModel.Lemmas.GroupWordsWithL
import TuModel.Lemmas.SpellCalibL
import TuModel.Props.C10
import TuModel.Props.C18
namespace Tu.C13
open Tu

/-! ### range / finiteness -/

/-- precision, recall and F-beta are finite (positive denominators) and lie in [0,1], for every
count triple and every beta = bn/bd ≥ 0 -/
theorem f1_range (tp fp fn bn bd : Nat) (hbd : 0 < bd) :
    (f1 tp fp fn bn bd).1.unit ∧ (f1 tp fp fn bn bd).2.1.unit ∧ (f1 tp fp fn bn bd).2.2.unit :=
  ⟨f1_f_unit tp fp fn bn bd hbd, f1_prec_unit tp fp fn bn bd, f1_rec_unit tp fp fn bn bd⟩

/-- no false positives and no false negatives: precision = recall = F = 1 (when there is at least
one true positive) -/
theorem f1_perfect (tp bn bd : Nat) (htp : 0 < tp) (hbd : 0 < bd) :
    (f1 tp 0 0 bn bd).1.isOne ∧ (f1 tp 0 0 bn bd).2.1.isOne ∧ (f1 tp 0 0 bn bd).2.2.isOne := by
  have h1 : (⟨tp, max (tp + 0) 1⟩ : Q).isOne :=
    ⟨Nat.lt_of_lt_of_le Nat.one_pos (Nat.le_max_right ..), by simp only []; omega⟩
  rw [f1_of_pos _ _ _ _ _ htp]
  exact ⟨fbeta_isOne _ _ _ (Nat.mul_pos hbd hbd) h1 h1, h1, h1⟩

/-- zero true positives: precision = recall = F = 0 -/
theorem f1_no_tp (fp fn bn bd : Nat) :
    (f1 0 fp fn bn bd).1.isZero ∧ (f1 0 fp fn bn bd).2.1.isZero ∧ (f1 0 fp fn bn bd).2.2.isZero := by
  rw [f1_zero]
  refine ⟨Q.zero_isZero, ⟨?_, rfl⟩, ⟨?_, rfl⟩⟩ <;> simp only [] <;> omega

theorem microF1_range (cs : List Counts) (bn bd : Nat) (hbd : 0 < bd) :
    (microF1 cs bn bd).1.unit ∧ (microF1 cs bn bd).2.1.unit ∧ (microF1 cs bn bd).2.2.unit :=
  f1_range _ _ _ bn bd hbd

/-- the sequence average of values in [0,1] is in [0,1] -/
theorem seqAvgF1_range (cs : List Counts) (bn bd : Nat) (hbd : 0 < bd) :
    (seqAvgF1 cs bn bd).1.unit ∧ (seqAvgF1 cs bn bd).2.1.unit ∧ (seqAvgF1 cs bn bd).2.2.unit := by
  have hv (c : Counts) : (fun v : Q × Q × Q => v.1.unit ∧ v.2.1.unit ∧ v.2.2.unit)
      (if c.empty then (Q.one, Q.one, Q.one) else f1 c.tp c.fp c.fn bn bd) := by
    split
    · exact ⟨Q.one_unit, Q.one_unit, Q.one_unit⟩
    · exact f1_range c.tp c.fp c.fn bn bd hbd
  -- over `cs` itself the summand `g` of `mean_unit` is found by pattern unification; an unannotated
  -- `fun v => v.1` given for `g` is elaborated too late and the unifier unfolds `Q.unit` and `<` in vain
  simp only [seqAvgF1, List.foldl_map]
  exact ⟨mean_unit _ cs (fun c _ => (hv c).1) _ (Nat.le_max_left ..) (by omega),
    mean_unit _ cs (fun c _ => (hv c).2.1) _ (Nat.le_max_left ..) (by omega),
    mean_unit _ cs (fun c _ => (hv c).2.2) _ (Nat.le_max_left ..) (by omega)⟩

theorem accuracy_range (p t : List Nat) (q : Q) (h : accuracy p t = some q) : q.unit := by
  unfold accuracy at h
  split at h
  · simp at h
  · simp only [Option.some.injEq] at h
    subst h
    simp only [Q.unit]
    have h1 := List.length_filter_le (fun (x : Nat × Nat) => x.1 == x.2) (p.zip t)
    have h2 : (p.zip t).length ≤ p.length := by rw [List.length_zip]; omega
    constructor
    · omega
    · exact Nat.le_trans h1 (by omega)

/-- accuracy fails exactly on a length mismatch (an error value, not a fault) -/
theorem accuracy_none_iff (p t : List Nat) : accuracy p t = none ↔ p.length ≠ t.length := by
  unfold accuracy; split <;> simp_all

/-! ### whitespace-correction counts -/

/-- the counts are the set comparison of ground-truth and predicted operation sets:
tp + fn = |gt|, tp + fp = |pred| -/
theorem wsCounts_sets (i p t : List (List Nat)) (mode : Nat) (c : Counts) (gt pr : List WsOp)
    (hg : wsOps i t = some gt) (hp : wsOps i p = some pr) (h : wsCounts i p t mode = some c) :
    c.tp + c.fn = (wsOpSet gt mode).length ∧ c.tp + c.fp = (wsOpSet pr mode).length := by
  simp only [wsCounts, hg, hp, Option.some.injEq] at h
  subst h
  simp only []
  constructor
  · exact length_filter_add_not (fun x => (wsOpSet pr mode).contains x) (wsOpSet gt mode)
  · rw [length_inter_comm _ _ (wsOpSet_nodup gt mode) (wsOpSet_nodup pr mode)]
    exact length_filter_add_not (fun x => (wsOpSet gt mode).contains x) (wsOpSet pr mode)

/-- a prediction equal to the target has no false positives or negatives -/
theorem wsCounts_pred_eq_target (i t : List (List Nat)) (mode : Nat) (c : Counts)
    (h : wsCounts i t t mode = some c) : c.fp = 0 ∧ c.fn = 0 := by
  unfold wsCounts at h
  split at h
  · rename_i gt pr hg hp
    rw [hg] at hp
    simp only [Option.some.injEq] at hp h
    subst hp; subst h
    simp only [filter_not_contains_self, List.length_nil, and_self]
  · simp at h

/-- an unchanged prediction has zero true (and false) positives -/
theorem wsCounts_pred_eq_input (i t : List (List Nat)) (mode : Nat) (c : Counts)
    (h : wsCounts i i t mode = some c) : c.tp = 0 ∧ c.fp = 0 := by
  unfold wsCounts at h
  split at h
  · rename_i gt pr hg hp
    rw [wsOps_self] at hp
    simp only [Option.some.injEq] at hp h
    subst hp; subst h
    simp [wsOpSet_replicate_keep]
  · simp at h

/-- on whitespace-clean, whitespace-equivalent texts the function is total (returns counts, never
the error) -/
theorem wsCounts_total (i p t : List (List Nat)) (mode : Nat) (hi : CleanB i = true)
    (hp : CleanB p = true) (ht : CleanB t = true)
    (h1 : removeWsCl i = removeWsCl t) (h2 : removeWsCl i = removeWsCl p) :
    (wsCounts i p t mode).isSome = true := by
  obtain ⟨gt, hg, _⟩ := C10.ops_total_and_repair hi ht h1
  obtain ⟨pr, hpr, _⟩ := C10.ops_total_and_repair hi hp h2
  simp [wsCounts, hg, hpr]

/-! ### counting -/

theorem countTpFpFn_spec (a b : List Bool) :
    countTpFpFn a b = (((a.zip b).filter (fun (p, t) => p && t)).length,
      ((a.zip b).filter (fun (p, t) => p && !t)).length,
      ((a.zip b).filter (fun (p, t) => !p && t)).length) := by
  have := countTpFpFn_fold (a.zip b) 0 0 0
  simp only [Nat.zero_add] at this
  exact this

/-! ### the spelling counts for GIVEN sub-results (the observed matchings / edit script)

The correspondence check passes the matchings and the edit script the code actually computed to the model
(`groupWordsWith`, `spellCountsWith`), after testing that they are admissible (`spellSubOk`).  The theorems say:
the function models are the relational ones on the model's own sub-results, those are admissible, and (next
section) the closing assertion of `_group_words` holds for EVERY admissible script. -/

/-- the function model is `groupWordsWith` on the model's own script -/
theorem groupWords_eq_with (input pred : List (List Nat)) (matching : List Nat) :
    groupWords input pred matching =
      (editOperations { swap := false, sid := true } input pred).bind
        (fun ops => groupWordsWith ops input pred matching) := by
  unfold groupWords
  cases editOperations { swap := false, sid := true } input pred with
  | none => rfl
  | some ops => rfl

/-- and `spellCounts` is `spellCountsWith` on the model's own sub-results (when the three matchings exist) -/
theorem spellCounts_eq_with (input pred target : List (List Nat)) (mit mip mpt : List (Nat × Nat))
    (ops : List (EKind × Nat × Nat))
    (h1 : matchWords (splitAsciiWs input.flatten) (splitAsciiWs target.flatten) = some mit)
    (h2 : matchWords (splitAsciiWs input.flatten) (splitAsciiWs pred.flatten) = some mip)
    (h3 : matchWords (splitAsciiWs pred.flatten) (splitAsciiWs target.flatten) = some mpt)
    (h4 : editOperations { swap := false, sid := true } input pred = some ops) :
    spellCounts input pred target =
      spellCountsWith input pred target { mit := mit, mip := mip, mpt := mpt, ops := ops } := by
  unfold spellCounts spellCountsWith
  simp only [h1, h2, h3, groupWords_eq_with, h4, Option.bind_some]

/-- the model's own sub-results are admissible -/
theorem spellSubOk_own (input pred target : List (List Nat)) (mit mip mpt : List (Nat × Nat))
    (ops : List (EKind × Nat × Nat))
    (h1 : matchWords (splitAsciiWs input.flatten) (splitAsciiWs target.flatten) = some mit)
    (h2 : matchWords (splitAsciiWs input.flatten) (splitAsciiWs pred.flatten) = some mip)
    (h3 : matchWords (splitAsciiWs pred.flatten) (splitAsciiWs target.flatten) = some mpt)
    (h4 : editOperations { swap := false, sid := true } input pred = some ops) :
    spellSubOk input pred target { mit := mit, mip := mip, mpt := mpt, ops := ops } = true :=
  spellSubOk_iff.mpr ⟨C18.matchWords_accepted _ _ _ h1, C18.matchWords_accepted _ _ _ h2,
    C18.matchWords_accepted _ _ _ h3, C12.editOperations_accepted _ _ _ _ h4⟩

/-- hence a defined `spellCounts` is `spellCountsWith` on the model's own, admissible, sub-results -/
theorem spellCounts_some_sub (i p t : List (List Nat)) (c : Counts) (h : spellCounts i p t = some c) :
    ∃ sub, spellSubOk i p t sub = true ∧
      matchWords (splitAsciiWs i.flatten) (splitAsciiWs t.flatten) = some sub.mit ∧
      matchWords (splitAsciiWs p.flatten) (splitAsciiWs t.flatten) = some sub.mpt ∧
      spellCountsWith i p t sub = some c := by
  obtain ⟨ops, h4⟩ := editOperations_isSome { swap := false, sid := true } i p
  have h' := h
  unfold spellCounts at h'
  simp only [] at h'
  split at h'
  · rename_i mit mip mpt h1 h2 h3
    exact ⟨⟨mit, mip, mpt, ops⟩, spellSubOk_own i p t mit mip mpt ops h1 h2 h3 h4, h1, h3,
      spellCounts_eq_with i p t mit mip mpt ops h1 h2 h3 h4 ▸ h⟩
  · cases h'

/-! ### the spelling-correction F1 functions never panic -/

/-- **never panics, for EVERY admissible script**: on whitespace-clean texts the closing assertion of `_group_words`
holds whatever optimal script `edit::operations` returned.  (`scriptAccept` also accepts scripts that are not
forward traces of the matrix — e.g. two replacements recorded at the same input position, the second of which
`applyScript` treats as an insertion; the proof follows `applyScript` and uses the optimality `length = distance`
to exclude the degenerate steps that would disturb the whitespace count: Lemmas/GroupWordsWithL.lean.) -/
theorem groupWordsWith_total (input pred : List (List Nat)) (hi : CleanB input = true) (hp : CleanB pred = true)
    (ops : List (EKind × Nat × Nat)) (ha : scriptAccept { swap := false, sid := true } input pred ops = true)
    (matching : List Nat) : (groupWordsWith ops input pred matching).isSome = true :=
  groupWordsWith_of_WSok input pred hi hp ops ((scriptAccept_iff _ input pred ops).mp ha).2.2.1
    (accept_WSok input pred ops ha) matching

/-- non-vacuity: an accepted script that is NOT the backtrace's answer and not even a forward trace of the matrix
("bb b" → "aabb": two replacements recorded at input position 0 — `applyScript` treats the second as an insertion —
and the deleted space): the theorem covers it, the two input words are merged into one group -/
example : scriptAccept { swap := false, sid := true } [[98], [98], sp, [98]] [[97], [97], [98], [98]]
      [(.replace, 0, 1), (.replace, 0, 1), (.delete, 2, 2)] = true ∧
    editOperations { swap := false, sid := true } [[98], [98], sp, [98]] [[97], [97], [98], [98]] ≠
      some [(.replace, 0, 1), (.replace, 0, 1), (.delete, 2, 2)] ∧
    groupWordsWith [(.replace, 0, 1), (.replace, 0, 1), (.delete, 2, 2)]
      [[98], [98], sp, [98]] [[97], [97], [98], [98]] [0] = some [1, 0] := by decide +kernel

/-- `_group_words` never hits its closing assertion on whitespace-clean texts (every matching set) -/
theorem groupWords_total (input pred : List (List Nat)) (hi : CleanB input = true) (hp : CleanB pred = true)
    (matching : List Nat) : (groupWords input pred matching).isSome = true := by
  obtain ⟨ops, hops⟩ := editOperations_isSome { swap := false, sid := true } input pred
  rw [groupWords_eq_with, hops]
  exact groupWordsWith_total input pred hi hp ops (C12.editOperations_accepted _ _ _ _ hops) matching

/-- non-vacuity: a merge (deleted whitespace), a split (inserted whitespace) and a deleted last word -/
example : groupWords [[97], sp, [98]] [[97], [98]] [0] = some [1, 0] := by decide +kernel
example : groupWords [[97], [98]] [[97], sp, [98]] [0, 1] = some [0] := by decide +kernel
example : groupWords [[97], sp, [98]] [[97]] [] = some [] := by decide +kernel

/-- hence the spelling counts computed from admissible sub-results are always defined -/
theorem spellCountsWith_total (input pred target : List (List Nat)) (hi : CleanB input = true) (hp : CleanB pred = true)
    (sub : SpellSub) (hs : spellSubOk input pred target sub = true) :
    (spellCountsWith input pred target sub).isSome = true := by
  obtain ⟨c, ec⟩ := Option.isSome_iff_exists.mp
    (groupWordsWith_total input pred hi hp sub.ops (spellSubOk_iff.mp hs).2.2.2 (sub.mpt.map Prod.fst))
  simp only [spellCountsWith, ec, Option.isSome_some]

/-- hence the spelling counts are defined on whitespace-clean input and prediction (the matchings always exist) -/
theorem spellCounts_isSome (input pred target : List (List Nat)) (hi : CleanB input = true) (hp : CleanB pred = true) :
    (spellCounts input pred target).isSome = true := by
  obtain ⟨mit, e1⟩ := C18.matchWords_isSome (splitAsciiWs input.flatten) (splitAsciiWs target.flatten)
  obtain ⟨mip, e2⟩ := C18.matchWords_isSome (splitAsciiWs input.flatten) (splitAsciiWs pred.flatten)
  obtain ⟨mpt, e3⟩ := C18.matchWords_isSome (splitAsciiWs pred.flatten) (splitAsciiWs target.flatten)
  obtain ⟨c, ec⟩ := Option.isSome_iff_exists.mp (groupWords_total input pred hi hp (mpt.map Prod.fst))
  simp only [spellCounts, e1, e2, e3, ec, Option.isSome_some]

/-- the form with the existence of the three matchings as hypotheses (they always hold) -/
theorem spellCounts_total (input pred target : List (List Nat)) (hi : CleanB input = true) (hp : CleanB pred = true)
    (h1 : (matchWords (splitAsciiWs input.flatten) (splitAsciiWs target.flatten)).isSome = true)
    (h2 : (matchWords (splitAsciiWs input.flatten) (splitAsciiWs pred.flatten)).isSome = true)
    (h3 : (matchWords (splitAsciiWs pred.flatten) (splitAsciiWs target.flatten)).isSome = true) :
    (spellCounts input pred target).isSome = true :=
  spellCounts_isSome input pred target hi hp

/-! ### spelling counts calibration

Each clause is proved in its relational form (for every admissible set of sub-results) and carried over to the
function by `spellCounts_some_sub`. -/

/-- relational form — unchanged prediction: zero true positives, when the SAME matching was observed for the two
calls `match_words(input, target)` and `match_words(prediction, target)` (they are the same call) -/
theorem spellCountsWith_pred_eq_input_tp (i t : List (List Nat)) (sub : SpellSub) (hm : sub.mit = sub.mpt)
    (c : Counts) (h : spellCountsWith i i t sub = some c) : c.tp = 0 :=
  spellCountsWith_tp_zero i i t sub c h (fun _ hx => hm ▸ hx)

/-- the hypothesis `sub.mit = sub.mpt` is needed: input = prediction = `a`, target = `a a`; both `[(0,0)]` and
`[(0,1)]` are admissible longest matchings; taking one for (input, target) and the other for (prediction, target)
reports the second target word as misspelled AND restored -/
example :
    spellSubOk [[97]] [[97]] [[97], sp, [97]] { mit := [(0, 0)], mip := [(0, 0)], mpt := [(0, 1)], ops := [] } = true ∧
    spellCountsWith [[97]] [[97]] [[97], sp, [97]] { mit := [(0, 0)], mip := [(0, 0)], mpt := [(0, 1)], ops := [] } =
      some ⟨false, 1, 0, 0⟩ := by decide +kernel

/-- unchanged prediction: zero true positives (the function itself: the two calls coincide, so `restored` is
exactly the complement of `misspelled`) -/
theorem spellCounts_pred_eq_input_tp (i t : List (List Nat)) (c : Counts)
    (h : spellCounts i i t = some c) : c.tp = 0 := by
  obtain ⟨sub, _, h1, h3, hw⟩ := spellCounts_some_sub i i t c h
  exact spellCountsWith_pred_eq_input_tp i t sub (Option.some.inj (h1.symm.trans h3)) c hw

/-- non-vacuity: input = prediction `a b`, target `a c`: the misspelled word is missed (fn = 1), tp = 0 -/
example : spellCounts [[97], sp, [98]] [[97], sp, [98]] [[97], sp, [99]] = some ⟨false, 0, 0, 1⟩ := by decide +kernel
example : spellCountsWith [[97], sp, [98]] [[97], sp, [98]] [[97], sp, [99]]
    { mit := [(0, 0)], mip := [(0, 0), (1, 1)], mpt := [(0, 0)], ops := [] } = some ⟨false, 0, 0, 1⟩ := by decide +kernel

/-- an admissible matching of (target, target) is the identity matching -/
theorem spellSubOk_mpt_identity (i t : List (List Nat)) (sub : SpellSub) (hs : spellSubOk i t t sub = true) :
    sub.mpt = (List.range (splitAsciiWs t.flatten).length).map (fun k => (k, k)) :=
  matchAccept_self_eq _ _ (spellSubOk_iff.mp hs).2.2.1

/-- relational form — prediction equal to the target: no false negatives, for EVERY admissible sub-result set -/
theorem spellCountsWith_pred_eq_target_fn (i t : List (List Nat)) (sub : SpellSub)
    (hs : spellSubOk i t t sub = true) (c : Counts) (h : spellCountsWith i t t sub = some c) : c.fn = 0 :=
  spellCountsWith_fn_zero i t t sub c h (matchAccept_self_full _ _ (spellSubOk_iff.mp hs).2.2.1).2

/-- relational form — prediction equal to the target: no false positives, for EVERY admissible sub-result set;
stated with what the proof uses of the texts: `split_ascii_whitespace` finds no more words in the input than
`word_boundaries`, and no fewer in the target -/
theorem spellCountsWith_pred_eq_target_fp_of_counts (i t : List (List Nat))
    (hi : (splitAsciiWs i.flatten).length ≤ (wordBoundaries i).length)
    (ht : (wordBoundaries t).length ≤ (splitAsciiWs t.flatten).length)
    (sub : SpellSub) (hs : spellSubOk i t t sub = true) (c : Counts)
    (h : spellCountsWith i t t sub = some c) : c.fp = 0 :=
  spellCountsWith_fp_zero i t t sub c h
    (fun k hk => (matchAccept_self_full _ _ (spellSubOk_iff.mp hs).2.2.1).1 k (by omega)) hi

/-- … in particular for a whitespace-clean input without mixed clusters (the property's domain: `unmixed`, which
holds in code-point mode) and a whitespace-clean target -/
theorem spellCountsWith_pred_eq_target_fp (i t : List (List Nat)) (hi : CleanB i = true) (hu : unmixed i = true)
    (ht : CleanB t = true) (sub : SpellSub) (hs : spellSubOk i t t sub = true) (c : Counts)
    (h : spellCountsWith i t t sub = some c) : c.fp = 0 :=
  spellCountsWith_pred_eq_target_fp_of_counts i t (Nat.le_of_eq ((wordBoundaries_length_split hi).2 hu).symm)
    (wordBoundaries_length_split ht).1 sub hs c h

/-- code-point mode -/
theorem spellCountsWith_pred_eq_target_fp_singletons (i t : List (List Nat)) (hi : CleanB i = true)
    (hu : singletons i = true) (ht : CleanB t = true) (sub : SpellSub) (hs : spellSubOk i t t sub = true)
    (c : Counts) (h : spellCountsWith i t t sub = some c) : c.fp = 0 :=
  spellCountsWith_pred_eq_target_fp i t hi (unmixed_of_singletons hu) ht sub hs c h

theorem spellCountsWith_pred_eq_target (i t : List (List Nat)) (hi : CleanB i = true) (hu : unmixed i = true)
    (ht : CleanB t = true) (sub : SpellSub) (hs : spellSubOk i t t sub = true) (c : Counts)
    (h : spellCountsWith i t t sub = some c) : c.fp = 0 ∧ c.fn = 0 :=
  ⟨spellCountsWith_pred_eq_target_fp i t hi hu ht sub hs c h, spellCountsWith_pred_eq_target_fn i t sub hs c h⟩

/-- prediction equal to the target: no false negatives (the function itself) -/
theorem spellCounts_pred_eq_target_fn (i t : List (List Nat)) (c : Counts)
    (h : spellCounts i t t = some c) : c.fn = 0 := by
  obtain ⟨sub, hs, _, _, hw⟩ := spellCounts_some_sub i t t c h
  exact spellCountsWith_pred_eq_target_fn i t sub hs c hw

/-- **prediction equal to the target: no false positives or negatives** — whitespace-clean input without mixed
clusters, whitespace-clean target.  (`CleanB i` and `CleanB t` alone do NOT suffice for `fp = 0`, and each of the
three hypotheses is needed: see the examples below.) -/
theorem spellCounts_pred_eq_target (i t : List (List Nat)) (hi : CleanB i = true) (hu : unmixed i = true)
    (ht : CleanB t = true) (c : Counts) (h : spellCounts i t t = some c) : c.fp = 0 ∧ c.fn = 0 := by
  obtain ⟨sub, hs, _, _, hw⟩ := spellCounts_some_sub i t t c h
  exact spellCountsWith_pred_eq_target i t hi hu ht sub hs c hw

/-- code-point mode -/
theorem spellCounts_pred_eq_target_fp_singletons (i t : List (List Nat)) (hi : CleanB i = true)
    (hu : singletons i = true) (ht : CleanB t = true) (c : Counts) (h : spellCounts i t t = some c) : c.fp = 0 :=
  (spellCounts_pred_eq_target i t hi (unmixed_of_singletons hu) ht c h).1

/-- non-vacuity: input `a b`, prediction = target `a c`: one true positive, nothing else; and a case with a merge
and a split (input `ab c`, prediction = target `a bc`): both input words changed, both correct -/
example : CleanB [[97], sp, [98]] = true ∧ unmixed [[97], sp, [98]] = true ∧ CleanB [[97], sp, [99]] = true ∧
    spellCounts [[97], sp, [98]] [[97], sp, [99]] [[97], sp, [99]] = some ⟨false, 1, 0, 0⟩ := by decide +kernel
example : spellCounts [[97], [98], sp, [99]] [[97], sp, [98], [99]] [[97], sp, [98], [99]] =
    some ⟨false, 2, 0, 0⟩ := by decide +kernel
example :
    spellSubOk [[97], sp, [98]] [[97], sp, [99]] [[97], sp, [99]]
      { mit := [(0, 0)], mip := [(0, 0)], mpt := [(0, 0), (1, 1)], ops := [(.replace, 2, 2)] } = true ∧
    spellCountsWith [[97], sp, [98]] [[97], sp, [99]] [[97], sp, [99]]
      { mit := [(0, 0)], mip := [(0, 0)], mpt := [(0, 0), (1, 1)], ops := [(.replace, 2, 2)] } =
      some ⟨false, 1, 0, 0⟩ := by decide +kernel

/-- the hypotheses of the "no false positives" clause are needed (counterexamples in the model):
* a whitespace-clean input with a MIXED cluster `a␣b` (one `word_boundaries` word, two `split_ascii_whitespace`
  words; its second word is "changed" but belongs to no group);
* a target that is not whitespace-clean (`a<NBSP>b`: two `word_boundaries` words, one `split_ascii_whitespace`
  word, so the second predicted word is never matched);
* an input without mixed clusters that is not whitespace-clean (`␣<NBSP>␣`: no `word_boundaries` word, one
  `split_ascii_whitespace` word). -/
example : CleanB [[97, 32, 98]] = true ∧ CleanB [[99]] = true ∧
    spellCounts [[97, 32, 98]] [[99]] [[99]] = some ⟨false, 1, 1, 0⟩ := by decide +kernel
example : CleanB [[99]] = true ∧ unmixed [[99]] = true ∧
    spellCounts [[99]] [[97], [160], [98]] [[97], [160], [98]] = some ⟨false, 1, 1, 0⟩ := by decide +kernel
example : unmixed [[32], [160], [32]] = true ∧ CleanB [[99]] = true ∧
    spellCounts [[32], [160], [32]] [[99]] [[99]] = some ⟨false, 1, 1, 0⟩ := by decide +kernel

/-! ### non-vacuity -/

example : (f1 2 1 1 1 1).1 = ⟨72, 108⟩ ∧ (f1 2 1 1 1 1).1.unit ∧ (f1 2 1 1 1 2).1 = ⟨720, 1080⟩ := by decide +kernel
example : (f1 3 0 0 1 2).1.isOne ∧ (f1 0 3 1 1 2).2.1.isZero := by decide +kernel
example : (seqAvgF1 [⟨true, 0, 0, 0⟩, ⟨false, 1, 1, 0⟩] 1 1).2.1 = ⟨3, 4⟩ := by decide +kernel
example : accuracy [1, 2, 3] [1, 5, 3] = some ⟨2, 3⟩ := by decide +kernel
example : accuracy [1, 2] [1] = none := by decide +kernel
example : countTpFpFn [true, true, false, false] [true, false, true, false] = (1, 1, 1) := by decide +kernel
/-- input `a b·c` (· = space), prediction `a·bc`, target `a·b·c`; mode 2: one correct insertion,
one wrong deletion, nothing missed -/
example : wsCounts [[97], [98], sp, [99]] [[97], sp, [98], [99]] [[97], sp, [98], sp, [99]] 2 =
    some ⟨false, 1, 1, 0⟩ := by decide +kernel

end Tu.C13

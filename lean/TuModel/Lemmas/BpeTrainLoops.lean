/-
  The incremental BPE trainer (Model/BpeTrainInc.lean): the two index-based scanning loops of `update_stats` (`oldLoop`,
  `newLoop`) perform exactly the decrements `decsN` / increments `incsN` of BpeTrainWord, in that order.
-/
import TuModel.Lemmas.BpeTrainWord
import TuModel.Lemmas.ListL
namespace Tu.BpeTrainIncL
open Tu

/-- `i < len - 2 && (old[i+2] != first || i >= len - 3 || old[i+3] != second)` as a test on the rest after the occurrence -/
def nextCond (x y : Tok) : List Tok → Bool
  | [] => false
  | [_] => true
  | c :: d :: _ => c != x || d != y

/-- `i < len - 1 && new[i+1] != merged` as a test on the rest after the merged token -/
def nextNotM (m : Tok) : List Tok → Bool
  | [] => false
  | c :: _ => c != m

/-- the right neighbour pair is emitted at once unless the next occurrence follows immediately, in which case it is
that occurrence's left neighbour pair: the test `next_pair` of the code -/
theorem decsN_match' (x y : Tok) (prev : Option Tok) (r2 : List Tok) :
    decsN x y prev (x :: y :: r2) =
      optPair prev x ++ (if nextCond x y r2 then headPair y r2 else []) ++ decsN x y (some y) r2 := by
  rw [decsN_match, List.append_assoc, List.append_assoc]
  congr 1
  match r2 with
  | [] => simp [nextCond, headPair, decsN_nil]
  | [c] => simp [nextCond, headPair, decsN_single]
  | c :: d :: r3 =>
    by_cases hm : c = x ∧ d = y
    · obtain ⟨rfl, rfl⟩ := hm
      simp [nextCond, headPair, decsN_match, optPair]
    · have hc : nextCond x y (c :: d :: r3) = true := by
        show (!(c == x) || !(d == y)) = true
        rw [← Bool.not_and, isPair_false hm]; rfl
      rw [hc, decsN_prev_irrel x y (some y) none _ (fun a b r h => by cases h; exact hm)]
      rfl

theorem decsN_skip1 (x y a : Tok) (prev : Option Tok) (rest : List Tok) (h : a ≠ x) :
    decsN x y prev (a :: rest) = decsN x y (some a) rest := by
  cases rest with
  | nil => rw [decsN_single, decsN_nil]
  | cons b r => exact decsN_nomatch x y a b prev r (fun hh => h hh.1)

theorem incsN_hit' (m : Tok) (prev : Option Tok) (rest : List Tok) :
    incsN m prev (m :: rest) =
      optPair prev m ++ (if nextNotM m rest then headPair m rest else []) ++ incsN m (some m) rest := by
  rw [incsN_hit, List.append_assoc, List.append_assoc]
  congr 1
  cases rest with
  | nil => simp [headPair, incsN_nil, nextNotM]
  | cons c r' =>
    by_cases hc : c = m
    · subst hc
      simp [headPair, incsN_hit, optPair, nextNotM]
    · have : nextNotM m (c :: r') = true := by simpa [nextNotM] using hc
      simp only [this, if_true]
      rw [incsN_miss m c (some m) r' hc, incsN_miss m c none r' hc]

theorem findPos_beq (key : Tok) : ∀ l : List Tok,
    (findPos (fun s => s == key) l = none ∧ ∀ b ∈ l, b ≠ key) ∨
    ∃ pre post, l = pre ++ key :: post ∧ findPos (fun s => s == key) l = some pre.length ∧ ∀ b ∈ pre, b ≠ key := by
  intro l
  induction l with
  | nil => exact Or.inl ⟨rfl, fun _ h => nomatch h⟩
  | cons b r ih =>
    rw [findPos]
    by_cases hb : b = key
    · subst hb
      exact Or.inr ⟨[], r, rfl, by rw [if_pos (beq_self_eq_true b)]; rfl, fun _ h => nomatch h⟩
    · rw [if_neg (by simpa using hb)]
      rcases ih with ⟨h1, h2⟩ | ⟨pre, post, h1, h2, h3⟩
      · exact Or.inl ⟨by rw [h1]; rfl, List.forall_mem_cons.mpr ⟨hb, h2⟩⟩
      · exact Or.inr ⟨b :: pre, post, by rw [h1]; rfl, by rw [h2]; rfl, List.forall_mem_cons.mpr ⟨hb, h3⟩⟩

theorem decsN_skip (x y : Tok) : ∀ (pre2 : List Tok) (prev : Option Tok) (l : List Tok), (∀ b ∈ pre2, b ≠ x) →
    decsN x y prev (pre2 ++ l) = decsN x y (pre2.getLast?.or prev) l := by
  intro pre2
  induction pre2 with
  | nil => intro prev l _; rfl
  | cons b p2 ih =>
    intro prev l h
    obtain ⟨hb, ht⟩ := List.forall_mem_cons.mp h
    rw [List.cons_append, decsN_skip1 x y b _ _ hb, ih (some b) l ht, List.getLast?_cons]
    cases p2.getLast? <;> rfl

theorem decsN_skip_all (x y : Tok) : ∀ (l : List Tok) (prev : Option Tok), (∀ b ∈ l, b ≠ x) → decsN x y prev l = [] := by
  intro l prev h
  rw [← List.append_nil l, decsN_skip x y l prev [] h, decsN_nil]

theorem incsN_skip (m : Tok) : ∀ (pre2 : List Tok) (prev : Option Tok) (l : List Tok), (∀ b ∈ pre2, b ≠ m) →
    incsN m prev (pre2 ++ l) = incsN m (pre2.getLast?.or prev) l := by
  intro pre2
  induction pre2 with
  | nil => intro prev l _; rfl
  | cons b p2 ih =>
    intro prev l h
    obtain ⟨hb, ht⟩ := List.forall_mem_cons.mp h
    rw [List.cons_append, incsN_miss m b _ _ hb, ih (some b) l ht, List.getLast?_cons]
    cases p2.getLast? <;> rfl

theorem incsN_skip_all (m : Tok) : ∀ (l : List Tok) (prev : Option Tok), (∀ b ∈ l, b ≠ m) → incsN m prev l = [] := by
  intro l prev h
  rw [← List.append_nil l, incsN_skip m l prev [] h, incsN_nil]

theorem tokAt_append_right (pre suf : List Tok) (k : Nat) : tokAt (pre ++ suf) (pre.length + k) = suf.getD k [] :=
  getD_append_add pre suf k []

theorem tokAt_concat (p0 : List Tok) (a : Tok) (suf : List Tok) : tokAt (p0 ++ [a] ++ suf) ((p0 ++ [a]).length - 1) = a := by
  have := tokAt_append_right p0 ([a] ++ suf) 0
  simp only [List.length_append, List.length_singleton, Nat.add_sub_cancel]
  rw [List.append_assoc]
  simpa using this

theorem oldAt_last (x y : Tok) (idx f : Nat) (pre : List Tok) (st : Stats) :
    oldAt x y (pre ++ [x]) idx f pre.length st = some (pre.length + 1, st) := by
  unfold oldAt
  have : (pre.length == (pre ++ [x]).length - 1) = true := by simp
  rw [this]; rfl

theorem oldAt_other (x y b : Tok) (idx f : Nat) (pre r : List Tok) (st : Stats) (hb : b ≠ y) :
    oldAt x y (pre ++ x :: b :: r) idx f pre.length st = some (pre.length + 1, st) := by
  unfold oldAt
  have h2 : tokAt (pre ++ x :: b :: r) (pre.length + 1) = b := by rw [tokAt_append_right]; rfl
  have : (tokAt (pre ++ x :: b :: r) (pre.length + 1) != y) = true := by rw [h2]; simpa using hb
  rw [this, Bool.or_true]; rfl

/-- the test `next_pair` of the code at an occurrence at position `n`, followed by `r2` (apart from `oldAt_match`, so
that the case split does not carry its context) -/
theorem nextTest_eq (x y : Tok) (n : Nat) (r2 : List Tok) :
    (decide (n < n + (r2.length + 2) - 2) &&
      ((x :: y :: r2).getD 2 [] != x || decide (n ≥ n + (r2.length + 2) - 3) || (x :: y :: r2).getD 3 [] != y)) =
      nextCond x y r2 := by
  match r2 with
  | [] =>
    have t1 : decide (n < n + (([] : List Tok).length + 2) - 2) = false := by
      simp only [List.length_nil, decide_eq_false_iff_not]; omega
    rw [t1, Bool.false_and]; rfl
  | [c] =>
    have t1 : decide (n < n + ([c].length + 2) - 2) = true := by
      simp only [List.length_cons, List.length_nil, decide_eq_true_eq]; omega
    have t2 : decide (n ≥ n + ([c].length + 2) - 3) = true := by
      simp only [List.length_cons, List.length_nil, decide_eq_true_eq]; omega
    rw [t1, t2, Bool.or_true, Bool.true_or]; rfl
  | c :: d :: r3 =>
    have t1 : decide (n < n + ((c :: d :: r3).length + 2) - 2) = true := by
      simp only [List.length_cons, decide_eq_true_eq]; omega
    have t2 : decide (n ≥ n + ((c :: d :: r3).length + 2) - 3) = false := by
      simp only [List.length_cons, decide_eq_false_iff_not]; omega
    rw [t1, t2, Bool.true_and, Bool.or_false]; rfl

theorem oldAt_match (x y : Tok) (idx f : Nat) (pre r2 : List Tok) (st : Stats) :
    oldAt x y (pre ++ x :: y :: r2) idx f pre.length st =
      (applyDecs idx f (optPair pre.getLast? x ++ (if nextCond x y r2 then headPair y r2 else [])) st).map
        (fun st2 => (pre.length + 2, st2)) := by
  have hk : ∀ k, tokAt (pre ++ x :: y :: r2) (pre.length + k) = (x :: y :: r2).getD k [] := tokAt_append_right pre _
  have h0 : tokAt (pre ++ x :: y :: r2) pre.length = x := hk 0
  have hlen : (pre ++ x :: y :: r2).length = pre.length + (r2.length + 2) := by
    rw [List.length_append, List.length_cons, List.length_cons]
  have e1 : (if pre.length > 0 then statsDec st (tokAt (pre ++ x :: y :: r2) (pre.length - 1), x) idx f else some st) =
      applyDecs idx f (optPair pre.getLast? x) st := by
    rcases List.eq_nil_or_concat pre with rfl | ⟨p0, l, rfl⟩
    · rfl
    · rw [List.concat_eq_append, tokAt_concat p0 l _, List.getLast?_concat, if_pos (by simp), optPair, applyDecs_single]
  -- from here on the word is only known through the facts above, so that the rewrites stay small
  generalize pre ++ x :: y :: r2 = w at hk h0 hlen e1 ⊢
  unfold oldAt
  rw [hlen, h0, hk 1, hk 2, hk 3, e1, applyDecs_append, nextTest_eq]
  have c1 : (pre.length == pre.length + (r2.length + 2) - 1 || (x :: y :: r2).getD 1 [] != y) = false := by
    simp only [List.getD_cons_succ, List.getD_cons_zero, bne_self_eq_false, Bool.or_false, beq_eq_false_iff_ne]; omega
  rw [if_neg (by rw [c1]; decide)]
  cases applyDecs idx f (optPair pre.getLast? x) st with
  | none => rfl
  | some st1 =>
    simp only [Option.bind_some]
    by_cases hn : nextCond x y r2 = true
    · rw [if_pos hn, if_pos hn]
      cases r2 with
      | nil => cases hn
      | cons c r3 =>
        rw [headPair, applyDecs_single]
        simp only [List.getD_cons_succ, List.getD_cons_zero]
        cases statsDec st1 (y, c) idx f <;> rfl
    · rw [if_neg hn, if_neg hn]; rfl

theorem oldLoop_eq (x y : Tok) (idx f : Nat) : ∀ (fuel : Nat) (pre suf : List Tok) (st : Stats), suf.length < fuel →
    oldLoop x y (pre ++ suf) idx f fuel pre.length st = applyDecs idx f (decsN x y pre.getLast? suf) st := by
  intro fuel
  induction fuel with
  | zero => intro pre suf st h; omega
  | succ fuel ih =>
    intro pre suf st hf
    rw [oldLoop]
    cases suf with
    | nil => simp [decsN_nil, applyDecs_nil]
    | cons s0 sr =>
      have hlt : pre.length < (pre ++ s0 :: sr).length := by simp
      rw [if_pos hlt, List.drop_left]
      rcases findPos_beq x (s0 :: sr) with ⟨hfp, hall⟩ | ⟨pre2, post, hsuf, hfp, hpre2⟩
      · rw [hfp, decsN_skip_all x y _ _ hall]
        rfl
      · rw [hfp, hsuf, decsN_skip x y pre2 _ _ hpre2, ← List.getLast?_append]
        have hpost : post.length < fuel := by
          rw [hsuf, List.length_append, List.length_cons] at hf
          omega
        rw [← List.append_assoc]
        simp only
        rw [← List.length_append]
        generalize pre ++ pre2 = pre' at *
        have e3 : pre'.length + 1 = (pre' ++ [x]).length := (List.length_append (as := pre') (bs := [x])).symm
        match post with
        | [] =>
          have h := ih (pre' ++ [x]) [] st hpost
          rw [List.append_nil, List.getLast?_concat] at h
          rw [oldAt_last]
          simp only []
          rw [e3, h, decsN_nil, decsN_single]
        | b :: r2 =>
          by_cases hb : b = y
          · subst hb
            rw [oldAt_match, decsN_match']
            generalize (optPair pre'.getLast? x ++ if nextCond x b r2 = true then headPair b r2 else []) = L
            rw [applyDecs_append]
            cases applyDecs idx f L st with
            | none => rfl
            | some st2 =>
              simp only [Option.map_some, Option.bind_some]
              have e4 : pre'.length + 2 = (pre' ++ [x] ++ [b]).length := by rw [List.length_append, ← e3]; rfl
              rw [List.append_cons, List.append_cons, e4, ih _ r2 st2 (Nat.lt_of_succ_lt hpost), List.getLast?_concat]
          · rw [oldAt_other x y b idx f pre' r2 st hb, decsN_nomatch x y x b _ r2 (fun hh => hb hh.2)]
            simp only []
            rw [List.append_cons, e3, ih _ (b :: r2) st hpost, List.getLast?_concat]

theorem newAt_eq (m : Tok) (idx f : Nat) (pre rest : List Tok) (st : Stats) :
    newAt m (pre ++ m :: rest) idx f pre.length st =
      applyIncs idx f (optPair pre.getLast? m ++ (if nextNotM m rest then headPair m rest else [])) st := by
  unfold newAt
  have h0 : tokAt (pre ++ m :: rest) pre.length = m := tokAt_append_right pre (m :: rest) 0
  have e1 : (if pre.length > 0 then statsInc st (tokAt (pre ++ m :: rest) (pre.length - 1), tokAt (pre ++ m :: rest) pre.length) idx f
      else st) = applyIncs idx f (optPair pre.getLast? m) st := by
    rcases List.eq_nil_or_concat pre with rfl | ⟨p0, l, rfl⟩
    · rfl
    · rw [List.concat_eq_append] at h0 ⊢
      rw [h0, tokAt_concat p0 l _, List.getLast?_concat, if_pos (by simp)]
      rfl
  simp only []
  rw [e1, applyIncs_append, h0]
  generalize applyIncs idx f (optPair pre.getLast? m) st = st1
  cases rest with
  | nil =>
    have : decide (pre.length < (pre ++ [m]).length - 1) = false := by simp
    rw [this]; rfl
  | cons c r =>
    have t1 : decide (pre.length < (pre ++ m :: c :: r).length - 1) = true := by
      simp only [List.length_append, List.length_cons, decide_eq_true_eq]; omega
    have t2 : tokAt (pre ++ m :: c :: r) (pre.length + 1) = c := by rw [tokAt_append_right]; rfl
    have hn : nextNotM m (c :: r) = (c != m) := rfl
    rw [t1, t2, hn]
    simp only [Bool.true_and]
    cases (c != m) with
    | true => rfl
    | false => rfl

theorem newLoop_eq (m : Tok) (idx f : Nat) : ∀ (fuel : Nat) (pre suf : List Tok) (st : Stats), suf.length < fuel →
    newLoop m (pre ++ suf) idx f fuel pre.length st = applyIncs idx f (incsN m pre.getLast? suf) st := by
  intro fuel
  induction fuel with
  | zero => intro pre suf st h; omega
  | succ fuel ih =>
    intro pre suf st hf
    rw [newLoop]
    cases suf with
    | nil => simp [incsN_nil, applyIncs_nil]
    | cons s0 sr =>
      have hlt : pre.length < (pre ++ s0 :: sr).length := by simp
      rw [if_pos hlt, List.drop_left]
      rcases findPos_beq m (s0 :: sr) with ⟨hfp, hall⟩ | ⟨pre2, post, hsuf, hfp, hpre2⟩
      · rw [hfp, incsN_skip_all m _ _ hall]
        rfl
      · rw [hfp, hsuf, incsN_skip m pre2 _ _ hpre2, ← List.getLast?_append]
        have hpost : post.length < fuel := by
          rw [hsuf, List.length_append, List.length_cons] at hf
          omega
        rw [← List.append_assoc]
        simp only
        rw [← List.length_append]
        generalize pre ++ pre2 = pre' at *
        rw [newAt_eq, incsN_hit']
        generalize (optPair pre'.getLast? m ++ if nextNotM m post = true then headPair m post else []) = L
        rw [applyIncs_append]
        have e3 : pre'.length + 1 = (pre' ++ [m]).length := (List.length_append (as := pre') (bs := [m])).symm
        rw [List.append_cons, e3, ih _ post _ hpost, List.getLast?_concat]

theorem oldLoop_top (x y : Tok) (idx f : Nat) (old : List Tok) (st : Stats) :
    oldLoop x y old idx f (old.length + 1) 0 st = applyDecs idx f (decsN x y none old) st :=
  oldLoop_eq x y idx f (old.length + 1) [] old st (Nat.lt_succ_self _)

theorem newLoop_top (m : Tok) (idx f : Nat) (new : List Tok) (st : Stats) :
    newLoop m new idx f (new.length + 1) 0 st = applyIncs idx f (incsN m none new) st :=
  newLoop_eq m idx f (new.length + 1) [] new st (Nat.lt_succ_self _)

end Tu.BpeTrainIncL

/-
  The closing assertion of `_group_words` holds for every script that `scriptAccept` accepts (C13
  `groupWordsWith_total`).  `scriptAccept` also accepts scripts that are not forward traces of the matrix: an
  operation may be recorded at the input position the preceding one has just consumed (`applyScript` then copies
  nothing: a `replace` acts as an insertion, an `insert` moves the read position back, a `delete` does nothing).
  So the analysis follows `applyScript` itself, with two read states (`CInv`, `DInv`); each yields an alignment of
  the remaining input with the remaining output that costs at most the number of remaining operations and, when it
  costs exactly that, the whitespace bookkeeping `WSok`.  The degenerate steps make the alignment strictly cheaper
  than the script, so a script whose length is the distance has none.
-/
import TuModel.Lemmas.GroupWordsL
import TuModel.Props.C12
namespace Tu

/-- the flags `_group_words` calls `edit::operations` with -/
abbrev flS : EFlags := { swap := false, sid := true }

theorem canReplace_flS {x y : List Nat} (h : canReplace flS x y = true) : isWsCl x = false ∧ isWsCl y = false := by
  simpa [canReplace] using h

/-- whitespace bookkeeping of a script segment that turns `src` into `out` -/
structure WSok (a b : List (List Nat)) (src : List (List Nat)) (ops : List (EKind × Nat × Nat))
    (out : List (List Nat)) : Prop where
  cnt : out.countP isWsCl + (delWs a ops).length = src.countP isWsCl + (insWs b ops).length
  sorted : (delWs a ops).Pairwise (· < ·)

theorem WSok.nil (a b src : List (List Nat)) : WSok a b src [] src := ⟨rfl, List.Pairwise.nil⟩

theorem WSok.copy {a b src out : List (List Nat)} {ops : List (EKind × Nat × Nat)} (c : List (List Nat))
    (h : WSok a b src ops out) : WSok a b (c ++ src) ops (c ++ out) :=
  ⟨by rw [List.countP_append, List.countP_append, Nat.add_assoc, h.cnt, Nat.add_assoc], h.sorted⟩

theorem WSok.ins {a b src out : List (List Nat)} {rest : List (EKind × Nat × Nat)} (i j : Nat)
    (h : WSok a b src rest out) : WSok a b src ((.insert, i, j) :: rest) (b.getD j [] :: out) := by
  refine ⟨?_, h.sorted⟩
  have := h.cnt
  rw [delWs_insert, insWs_insert, List.countP_cons]
  cases isWsCl (b.getD j [])
  · simpa using this
  · simp only [if_true, List.length_cons]; omega

theorem WSok.del {a b src out : List (List Nat)} {rest : List (EKind × Nat × Nat)} {i : Nat} (j : Nat)
    (h : WSok a b src rest out) (hlt : ∀ p ∈ delWs a rest, i < p) :
    WSok a b (a.getD i [] :: src) ((.delete, i, j) :: rest) out := by
  constructor
  · have := h.cnt
    rw [delWs_delete, insWs_delete, List.countP_cons]
    cases isWsCl (a.getD i [])
    · simpa using this
    · simp only [if_true, List.length_cons]; omega
  · rw [delWs_delete]
    split
    · exact List.pairwise_cons.mpr ⟨hlt, h.sorted⟩
    · exact h.sorted

/-- a replacement, read as such (`src'` is `a[i] :: src`) or as an insertion (`src' = src`) -/
theorem WSok.rep {a b src src' out : List (List Nat)} {rest : List (EKind × Nat × Nat)} (i : Nat) {j : Nat}
    (hs : src'.countP isWsCl = src.countP isWsCl) (hy : isWsCl (b.getD j []) = false)
    (h : WSok a b src rest out) : WSok a b src' ((.replace, i, j) :: rest) (b.getD j [] :: out) := by
  refine ⟨?_, h.sorted⟩
  rw [delWs_replace, insWs_replace, List.countP_cons_of_neg (Bool.eq_false_iff.mp hy), hs]
  exact h.cnt

/-- a script segment of cost `n ≤ len`, with the bookkeeping `W` when it is as dear as it is long -/
def Tight (n len : Nat) (W : Prop) : Prop := n ≤ len ∧ (n = len → W)

theorem Tight.step {n len : Nat} {W W' : Prop} (h : Tight n len W) (f : W → W') : Tight (n + 1) (len + 1) W' :=
  ⟨Nat.succ_le_succ h.1, fun e => f (h.2 (Nat.succ.inj e))⟩

theorem Tight.skip {n len : Nat} {W : Prop} (W' : Prop) (h : Tight n len W) : Tight n (len + 1) W' :=
  ⟨Nat.le_succ_of_le h.1, fun e => absurd h.1 (by omega)⟩

theorem Tight.imp {n len : Nat} {W W' : Prop} (h : Tight n len W) (f : W → W') : Tight n len W' :=
  ⟨h.1, fun e => f (h.2 e)⟩

/-- read position `lo`, every remaining operation at a position `≥ lo` -/
def CInv (a b : List (List Nat)) (lo : Nat) (ops : List (EKind × Nat × Nat)) : Prop :=
  ∃ n, Align flS (a.drop lo) (applyScript a b ops lo) n ∧
    Tight n ops.length (WSok a b (a.drop lo) ops (applyScript a b ops lo))

/-- position `lo` has just been consumed (read position `lo + 1`), the remaining operations are at positions
`≥ lo`: either the rest is an honest continuation from `lo + 1`, or it goes back and re-reads `a[lo]` -/
def DInv (a b : List (List Nat)) (lo : Nat) (ops : List (EKind × Nat × Nat)) : Prop :=
  ∃ n, (Align flS (a.drop (lo + 1)) (applyScript a b ops (lo + 1)) n ∧
        Tight n ops.length (WSok a b (a.drop (lo + 1)) ops (applyScript a b ops (lo + 1)) ∧
          ∀ p ∈ delWs a ops, lo < p)) ∨
     (Align flS (a.drop lo) (applyScript a b ops (lo + 1)) n ∧
        Tight n ops.length (WSok a b (a.drop lo) ops (applyScript a b ops (lo + 1))))

theorem CInv_nil (a b : List (List Nat)) (lo : Nat) : CInv a b lo [] :=
  ⟨0, align_refl _ _, Nat.le_refl _, fun _ => WSok.nil a b _⟩

theorem CInv_lower {a b : List (List Nat)} {k : EKind} {i j : Nat} {rest : List (EKind × Nat × Nat)} {lo : Nat}
    (h : lo ≤ i) (hc : CInv a b i ((k, i, j) :: rest)) : CInv a b lo ((k, i, j) :: rest) := by
  obtain ⟨n, hal, ht⟩ := hc
  have hd := List.take_append_drop (i - lo) (a.drop lo)
  rw [List.drop_drop, Nat.add_sub_cancel' h] at hd
  rw [CInv, applyScript_lower a b k i j rest lo]
  generalize (a.drop lo).take (i - lo) = c at hd ⊢
  rw [← hd]
  exact ⟨n, align_keep_prefix _ hal, ht.imp (WSok.copy _)⟩

theorem CInv_ins {a b : List (List Nat)} {i j : Nat} {rest : List (EKind × Nat × Nat)}
    (hc : CInv a b i rest) : CInv a b i ((.insert, i, j) :: rest) := by
  obtain ⟨n, hal, ht⟩ := hc
  rw [CInv, applyScript_insert_at a b i j rest i (Nat.le_refl _)]
  exact ⟨n + 1, .ins _ hal, ht.step (WSok.ins i j)⟩

theorem CInv_del {a b : List (List Nat)} {i j : Nat} {rest : List (EKind × Nat × Nat)} (hi : i < a.length)
    (hd : DInv a b i rest) : CInv a b i ((.delete, i, j) :: rest) := by
  rw [CInv, applyScript_delete_at a b i j rest i (Nat.le_refl _)]
  obtain ⟨n, ⟨hal, ht⟩ | ⟨hal, ht⟩⟩ := hd
  · rw [drop_eq_getD_cons a i [] hi]
    exact ⟨n + 1, .del _ hal, ht.step fun w => w.1.del j w.2⟩
  · exact ⟨n, hal, ht.skip _⟩

theorem CInv_rep {a b : List (List Nat)} {i j : Nat} {rest : List (EKind × Nat × Nat)} (hi : i < a.length)
    (hr : canReplace flS (a.getD i []) (b.getD j []) = true)
    (hd : DInv a b i rest) : CInv a b i ((.replace, i, j) :: rest) := by
  obtain ⟨hwa, hwb⟩ := canReplace_flS hr
  rw [CInv, applyScript_replace_at a b i j rest i (Nat.le_refl _)]
  obtain ⟨n, ⟨hal, ht⟩ | ⟨hal, ht⟩⟩ := hd
  · rw [drop_eq_getD_cons a i [] hi]
    by_cases hxy : a.getD i [] = b.getD j []
    · exact ⟨n, hxy ▸ .keep _ hal, ht.skip _⟩
    · exact ⟨n + 1, .rep hxy hr hal,
        ht.step fun w => w.1.rep i (List.countP_cons_of_neg (Bool.eq_false_iff.mp hwa)) hwb⟩
  · exact ⟨n + 1, .ins _ hal, ht.step (WSok.rep i rfl hwb)⟩

/-- no remaining operation is recorded at the consumed position: an honest continuation -/
theorem DInv_far {a b : List (List Nat)} {lo : Nat} {ops : List (EKind × Nat × Nat)}
    (hc : CInv a b (lo + 1) ops) (hlo : ∀ p ∈ ops, lo + 1 ≤ p.2.1) : DInv a b lo ops := by
  obtain ⟨n, hal, ht⟩ := hc
  refine ⟨n, Or.inl ⟨hal, ht.imp fun w => ⟨w, fun p hp => ?_⟩⟩⟩
  obtain ⟨j, hm, _⟩ := mem_delWs hp
  exact hlo _ hm

theorem DInv_del {a b : List (List Nat)} {lo j : Nat} {rest : List (EKind × Nat × Nat)}
    (hd : DInv a b lo rest) : DInv a b lo ((.delete, lo, j) :: rest) := by
  rw [DInv, applyScript_delete_at a b lo j rest (lo + 1) (Nat.le_succ _)]
  obtain ⟨n, ⟨hal, ht⟩ | ⟨hal, ht⟩⟩ := hd
  · exact ⟨n, Or.inl ⟨hal, ht.skip _⟩⟩
  · exact ⟨n, Or.inr ⟨hal, ht.skip _⟩⟩

theorem DInv_rep {a b : List (List Nat)} {lo j : Nat} {rest : List (EKind × Nat × Nat)}
    (hwb : isWsCl (b.getD j []) = false)
    (hd : DInv a b lo rest) : DInv a b lo ((.replace, lo, j) :: rest) := by
  rw [DInv, applyScript_replace_at a b lo j rest (lo + 1) (Nat.le_succ _)]
  obtain ⟨n, ⟨hal, ht⟩ | ⟨hal, ht⟩⟩ := hd
  · exact ⟨n + 1, Or.inl ⟨.ins _ hal, ht.step fun w => ⟨w.1.rep lo rfl hwb, w.2⟩⟩⟩
  · exact ⟨n + 1, Or.inr ⟨.ins _ hal, ht.step (WSok.rep lo rfl hwb)⟩⟩

/-- an insertion recorded at the consumed position moves the read position back: `a[lo]` is read again -/
theorem DInv_ins {a b : List (List Nat)} {lo j : Nat} {rest : List (EKind × Nat × Nat)}
    (hc : CInv a b lo rest) : DInv a b lo ((.insert, lo, j) :: rest) := by
  obtain ⟨n, hal, ht⟩ := hc
  rw [DInv, applyScript_insert_at a b lo j rest (lo + 1) (Nat.le_succ _)]
  exact ⟨n + 1, Or.inr ⟨.ins _ hal, ht.step (WSok.ins lo j)⟩⟩

theorem inv_all (a b : List (List Nat)) : ∀ (ops : List (EKind × Nat × Nat)),
    (∀ p ∈ ops, opOk flS a b p = true) → ops.Pairwise (fun p q => p.2.1 ≤ q.2.1) →
    ∀ lo, (∀ p ∈ ops, lo ≤ p.2.1) → CInv a b lo ops ∧ (lo < a.length → DInv a b lo ops) := by
  intro ops
  induction ops with
  | nil =>
    intro _ _ lo _
    exact ⟨CInv_nil a b lo, fun _ => DInv_far (CInv_nil a b (lo + 1)) (by simp)⟩
  | cons q rest ih =>
    intro hok hs lo hlo
    obtain ⟨k, i, j⟩ := q
    rw [List.pairwise_cons] at hs
    have hok' : ∀ p ∈ rest, opOk flS a b p = true := fun p hp => hok p (List.mem_cons_of_mem _ hp)
    have hq := (opOk_iff flS a b (k, i, j)).mp (hok _ (List.mem_cons_self ..))
    have ihi := ih hok' hs.2 i (fun p hp => hs.1 p hp)
    -- both states at the operation's own position, then the positions below it
    have hi : CInv a b i ((k, i, j) :: rest) ∧ (i < a.length → DInv a b i ((k, i, j) :: rest)) := by
      cases k with
      | insert => exact ⟨CInv_ins ihi.1, fun _ => DInv_ins ihi.1⟩
      | delete => exact ⟨CInv_del (hq.2.1 rfl) (ihi.2 (hq.2.1 rfl)), fun h => DInv_del (ihi.2 h)⟩
      | replace =>
        obtain ⟨hi, _, hr⟩ := hq.2.2.1 rfl
        exact ⟨CInv_rep hi hr (ihi.2 hi), fun h => DInv_rep (canReplace_flS hr).2 (ihi.2 h)⟩
      | swap => exact absurd (hq.2.2.2 rfl).1 (by simp)
    have hli : lo ≤ i := hlo _ (List.mem_cons_self ..)
    refine ⟨CInv_lower hli hi.1, fun hlt => ?_⟩
    by_cases hlt' : lo < i
    · apply DInv_far (CInv_lower hlt' hi.1)
      intro p hp
      rcases List.mem_cons.mp hp with rfl | hp
      · exact hlt'
      · have := hs.1 p hp; simp only [] at this; omega
    · cases Nat.le_antisymm hli (Nat.le_of_not_lt hlt')
      exact hi.2 hlt

theorem accept_WSok (a b : List (List Nat)) (ops : List (EKind × Nat × Nat))
    (h : scriptAccept flS a b ops = true) : WSok a b a ops b := by
  obtain ⟨hlen, hsorted, hok, hsem⟩ := (scriptAccept_iff flS a b ops).mp h
  have hpw : ops.Pairwise (fun p q => p.2.1 ≤ q.2.1) :=
    ((scriptSorted_iff_pairwise ops).mp hsorted).imp (fun h => h.1)
  obtain ⟨n, hal, hn, hws⟩ := (inv_all a b ops hok hpw 0 (fun _ _ => Nat.zero_le _)).1
  rw [hsem, List.drop_zero] at hal hws
  have hge := C12.distance_le_script flS a b n (align_reverse hal)
  exact hws (by omega)

theorem groupWordsWith_of_WSok (input pred : List (List Nat)) (hi : CleanB input = true) (hp : CleanB pred = true)
    (ops : List (EKind × Nat × Nat)) (hok : ∀ p ∈ ops, opOk flS input pred p = true)
    (hws : WSok input pred input ops pred) (matching : List Nat) :
    (groupWordsWith ops input pred matching).isSome = true := by
  have hdpos : ∀ p ∈ delWs input ops, p < input.length ∧ isWsCl (input.getD p []) = true := by
    intro p hp
    obtain ⟨j, hm, hw⟩ := mem_delWs hp
    exact ⟨((opOk_iff flS input pred _).mp (hok _ hm)).2.1 rfl, hw⟩
  have hipos : ∀ p ∈ insWs pred ops, p ≤ input.length := by
    intro p hp
    obtain ⟨j, hm⟩ := mem_insWs hp
    exact (((opOk_iff flS input pred _).mp (hok _ hm)).1 rfl).2
  by_cases h1 : wordBoundaries pred = []
  · exact Option.isSome_iff_exists.mpr ⟨_, groupWordsWith_eq_some.mpr (.inl ⟨h1, rfl⟩)⟩
  by_cases h2 : wordBoundaries input = []
  · exact Option.isSome_iff_exists.mpr ⟨_, groupWordsWith_eq_some.mpr (.inr (.inl ⟨h1, h2, rfl⟩))⟩
  have hine : input ≠ [] := by rintro rfl; exact h2 wordBoundaries_nil
  have hpne : pred ≠ [] := by rintro rfl; exact h1 wordBoundaries_nil
  obtain ⟨hms, hmb⟩ := wordIdxOf_ws_sorted hi hine (delWs input ops) hdpos hws.sorted
  obtain ⟨c, hc⟩ := groupLoop_sorted (wordBoundaries input).length _
    ((insWs pred ops).map (wordIdxOf (wordBoundaries input))) matching hms hmb
    (fun w hw => by
      obtain ⟨p, hpm, rfl⟩ := List.mem_map.mp hw
      exact wordIdxOf_lt hi hine p (hipos p hpm))
  refine Option.isSome_iff_exists.mpr ⟨c, groupWordsWith_eq_some.mpr (.inr (.inr ⟨h1, h2, ?_⟩))⟩
  -- #words = #whitespace + 1 on both sides, and the script keeps the whitespace balance
  have hcount := hws.cnt
  rw [hc, List.length_map, List.length_map, wordBoundaries_length hi hine, wordBoundaries_length hp hpne]
  congr 3
  omega

end Tu

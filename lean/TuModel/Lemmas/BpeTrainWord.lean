/-
  The incremental BPE trainer (Model/BpeTrainInc.lean), one word: `rep` is the structural form of `replace_pair_in_word`,
  `decsN` / `incsN` the pairs decremented / incremented by the two loops of `update_stats`, and for every pair `q ≠ (x, y)`
      cnt q (pairs old) + cnt q incs = cnt q (pairs new) + cnt q decs,     cnt q decs ≤ cnt q (pairs old).
  `applyDecs` / `applyIncs` (such a list as a fold of `statsDec` / `statsInc`) join BpeTrainLoops and BpeTrainStats.
-/
import TuModel.Model.BpeTrainInc
namespace Tu.BpeTrainIncL
open Tu

abbrev Tok := List Nat

def cnt (q : BPair) (l : List BPair) : Nat := (l.filter (· == q)).length

theorem wordPairCount_eq (w : List Tok) (q : BPair) : wordPairCount w q = cnt q (wordPairs w) := rfl

theorem cnt_eq_count (q : BPair) (l : List BPair) : cnt q l = l.count q := List.countP_eq_length_filter.symm

@[simp] theorem cnt_nil (q : BPair) : cnt q [] = 0 := rfl
theorem cnt_cons (q a : BPair) (l : List BPair) : cnt q (a :: l) = (if a = q then 1 else 0) + cnt q l := by
  rw [cnt_eq_count, cnt_eq_count, List.count_cons, Nat.add_comm]
  simp only [beq_iff_eq]
theorem cnt_singleton (q a : BPair) : cnt q [a] = if a = q then 1 else 0 := cnt_cons q a []
@[simp] theorem cnt_append (q : BPair) (l1 l2 : List BPair) : cnt q (l1 ++ l2) = cnt q l1 + cnt q l2 := by
  simp only [cnt_eq_count, List.count_append]

theorem cnt_pos_iff (q : BPair) (l : List BPair) : 0 < cnt q l ↔ q ∈ l := by
  rw [cnt_eq_count, List.count_pos_iff]

theorem cnt_pos_mem (q : BPair) (l : List BPair) (h : 0 < cnt q l) : q ∈ l := (cnt_pos_iff q l).mp h

theorem cnt_eq_zero_of_not_mem (q : BPair) (l : List BPair) (h : q ∉ l) : cnt q l = 0 := by
  rw [cnt_eq_count, List.count_eq_zero_of_not_mem h]

theorem wordPairs_nil : wordPairs [] = [] := rfl
theorem wordPairs_single (a : Tok) : wordPairs [a] = [] := rfl
theorem wordPairs_cons2 (a b : Tok) (r : List Tok) : wordPairs (a :: b :: r) = (a, b) :: wordPairs (b :: r) := rfl

def optPair (prev : Option Tok) (a : Tok) : List BPair :=
  match prev with
  | some p => [(p, a)]
  | none => []

def headPair (a : Tok) (r : List Tok) : List BPair :=
  match r with
  | c :: _ => [(a, c)]
  | [] => []

theorem wordPairs_cons (a : Tok) (l : List Tok) : wordPairs (a :: l) = headPair a l ++ wordPairs l := by
  cases l with
  | nil => rfl
  | cons b r => rfl

theorem cnt_headPair_zero (q : BPair) (a : Tok) (l : List Tok) (h : ∀ c, l.head? = some c → (a, c) ≠ q) :
    cnt q (headPair a l) = 0 := by
  cases l with
  | nil => rfl
  | cons c r => exact cnt_eq_zero_of_not_mem q _ fun hm => h c rfl (List.mem_singleton.mp hm).symm

def pairsP (prev : Option Tok) (w : List Tok) : List BPair :=
  match prev with
  | some p => wordPairs (p :: w)
  | none => wordPairs w

theorem pairsP_none (w : List Tok) : pairsP none w = wordPairs w := rfl
theorem pairsP_cons (prev : Option Tok) (a : Tok) (l : List Tok) :
    pairsP prev (a :: l) = optPair prev a ++ headPair a l ++ wordPairs l := by
  cases prev with
  | none => rw [pairsP, wordPairs_cons]; rfl
  | some p => rw [pairsP, wordPairs_cons, wordPairs_cons]; rfl

theorem wordPairs_infix : ∀ (w : List Tok) (q : BPair), q ∈ wordPairs w → [q.1, q.2] <:+: w := by
  intro w
  induction w with
  | nil => intro q h; cases h
  | cons a l ih =>
    intro q h
    cases l with
    | nil => cases h
    | cons b r =>
      rw [wordPairs_cons2] at h
      rcases List.mem_cons.mp h with h | h
      · subst h
        exact ⟨[], r, rfl⟩
      · obtain ⟨A, B, hAB⟩ := ih q h
        exact ⟨a :: A, B, by rw [← hAB]; rfl⟩

theorem wordPairs_mem (w : List Tok) (p : BPair) (h : p ∈ wordPairs w) : p.1 ∈ w ∧ p.2 ∈ w :=
  have hs := (wordPairs_infix w p h).subset
  ⟨hs List.mem_cons_self, hs (List.mem_cons_of_mem _ List.mem_cons_self)⟩

theorem pairFreq_nil (q : BPair) : pairFreq [] q = 0 := rfl
theorem pairFreq_cons (w : List Tok) (n : Nat) (r : Corpus) (q : BPair) :
    pairFreq ((w, n) :: r) q = n * cnt q (wordPairs w) + pairFreq r q := by
  unfold pairFreq
  rw [List.map_cons, List.sum_cons]
  rfl
theorem pairFreq_append (c1 c2 : Corpus) (q : BPair) : pairFreq (c1 ++ c2) q = pairFreq c1 q + pairFreq c2 q := by
  unfold pairFreq
  rw [List.map_append, List.sum_append]

theorem pairFreq_pos_occurs : ∀ (c : Corpus) (p : BPair), 0 < pairFreq c p → ∃ w n, (w, n) ∈ c ∧ p ∈ wordPairs w := by
  intro c p
  induction c with
  | nil => intro hp; cases hp
  | cons e r ih =>
    obtain ⟨w, n⟩ := e
    intro hp
    rw [pairFreq_cons] at hp
    by_cases hw : 0 < cnt p (wordPairs w)
    · exact ⟨w, n, List.mem_cons_self, cnt_pos_mem p _ hw⟩
    · rw [Nat.eq_zero_of_not_pos hw, Nat.mul_zero, Nat.zero_add] at hp
      obtain ⟨w', n', hm, hp'⟩ := ih hp
      exact ⟨w', n', List.mem_cons_of_mem _ hm, hp'⟩

theorem pair_nonempty (c : Corpus) (p : BPair) (hne : ∀ e ∈ c, ∀ t ∈ e.1, t ≠ []) (hp : 0 < pairFreq c p) :
    p.1 ≠ [] ∧ p.2 ≠ [] := by
  obtain ⟨w0, n0, hw0, hpw0⟩ := pairFreq_pos_occurs c p hp
  have hxy := wordPairs_mem w0 p hpw0
  exact ⟨hne _ hw0 p.1 hxy.1, hne _ hw0 p.2 hxy.2⟩

theorem initCorpus_token (words : List (List Nat × Nat)) :
    ∀ e ∈ initCorpus words, ∀ t ∈ e.1, ∃ w ∈ words, ∃ b ∈ w.1, t = [b] := by
  intro e he t ht
  obtain ⟨w, hw, rfl⟩ := List.mem_map.mp he
  obtain ⟨b, hb, rfl⟩ := List.mem_map.mp ht
  exact ⟨w, hw, b, hb, rfl⟩

theorem mem_applyMerge (c : Corpus) (p : BPair) (e : List Tok × Nat) (h : e ∈ applyMerge c p) :
    ∃ w n, (w, n) ∈ c ∧ e = (replacePairInWord w p.1 p.2, n) := by
  unfold applyMerge at h
  obtain ⟨⟨w, n⟩, h1, h2⟩ := List.mem_map.mp h
  exact ⟨w, n, h1, h2.symm⟩

def rep (x y : Tok) : List Tok → List Tok
  | [] => []
  | [a] => [a]
  | a :: b :: r => if a == x && b == y then (a ++ b) :: rep x y r else a :: rep x y (b :: r)

theorem isPair_false {a b x y : Tok} (h : ¬ (a = x ∧ b = y)) : (a == x && b == y) = false := by
  rw [Bool.and_eq_false_iff]
  by_cases ha : a = x
  · right; simpa using fun hb => h ⟨ha, hb⟩
  · left; simpa using ha

theorem rep_nil (x y : Tok) : rep x y [] = [] := by rw [rep]
theorem rep_single (x y a : Tok) : rep x y [a] = [a] := by rw [rep]
theorem rep_match (x y : Tok) (r : List Tok) : rep x y (x :: y :: r) = (x ++ y) :: rep x y r := by
  rw [rep]; simp
theorem rep_nomatch (x y a b : Tok) (r : List Tok) (h : ¬ (a = x ∧ b = y)) :
    rep x y (a :: b :: r) = a :: rep x y (b :: r) := by
  rw [rep, isPair_false h]; rfl

/-- the left-to-right scan for non-overlapping occurrences of the pair, as `replace_pair_in_word` and both loops of
`update_stats` perform it -/
theorem scan_induction (x y : Tok) {motive : List Tok → Prop} (nil : motive []) (single : ∀ a, motive [a])
    (hit : ∀ r, motive r → motive (x :: y :: r))
    (miss : ∀ a b r, ¬ (a = x ∧ b = y) → motive (b :: r) → motive (a :: b :: r)) : ∀ w, motive w := by
  intro w
  induction w using rep.induct x y with
  | case1 => exact nil
  | case2 a => exact single a
  | case3 a b r h ih =>
    simp only [Bool.and_eq_true, beq_iff_eq] at h
    obtain ⟨rfl, rfl⟩ := h
    exact hit r ih
  | case4 a b r h ih => exact miss a b r (by simpa using h) ih

theorem rep_head (x y a : Tok) (l : List Tok) :
    ∃ t, rep x y (a :: l) = a :: t ∨ (a = x ∧ rep x y (a :: l) = (x ++ y) :: t) := by
  cases l with
  | nil => exact ⟨[], Or.inl (rep_single x y a)⟩
  | cons b r =>
    by_cases h : a = x ∧ b = y
    · obtain ⟨rfl, rfl⟩ := h
      exact ⟨_, Or.inr ⟨rfl, rep_match a b r⟩⟩
    · exact ⟨_, Or.inl (rep_nomatch x y a b r h)⟩

theorem rep_eq_replaceAux (x y : Tok) (hy : y ≠ []) :
    ∀ (w : List Tok) (last : Tok) (acc : List Tok),
      replacePairAux x y w (last :: acc) = acc.reverse ++ rep x y (last :: w) := by
  intro w
  induction w with
  | nil => intro last acc; rw [replacePairAux, rep_single]; simp
  | cons s rest ih =>
    intro last acc
    rw [replacePairAux]
    by_cases h : last = x ∧ s = y
    · obtain ⟨rfl, rfl⟩ := h
      simp only [beq_self_eq_true, Bool.and_self, if_true]
      rw [ih, rep_match]
      -- the merged token is not merged again: it differs from `last` because `s` is not empty
      have : rep last s ((last ++ s) :: rest) = (last ++ s) :: rep last s rest := by
        cases rest with
        | nil => rw [rep_single, rep_nil]
        | cons b r => exact rep_nomatch _ _ _ _ _ fun hh => hy (List.append_right_eq_self.mp hh.1)
      rw [this]
    · rw [isPair_false h]
      simp only [Bool.false_eq_true, if_false]
      rw [ih, rep_nomatch x y last s rest h]
      simp

theorem replacePairInWord_eq_rep (w : List Tok) (x y : Tok) (hy : y ≠ []) : replacePairInWord w x y = rep x y w := by
  unfold replacePairInWord
  cases w with
  | nil => rw [replacePairAux, rep_nil]; rfl
  | cons s rest =>
    rw [replacePairAux, rep_eq_replaceAux x y hy]
    simp

theorem rep_noop (x y : Tok) : ∀ (w : List Tok), cnt (x, y) (wordPairs w) = 0 → rep x y w = w := by
  intro w
  induction w using scan_induction x y with
  | nil => intro _; exact rep_nil x y
  | single a => intro _; exact rep_single x y a
  | hit r _ =>
    intro h
    rw [wordPairs_cons2, cnt_cons, if_pos rfl] at h
    omega
  | miss a b r hne ih =>
    intro h
    rw [wordPairs_cons2, cnt_cons] at h
    rw [rep_nomatch x y a b r hne, ih (by omega)]

theorem rep_flatten (x y : Tok) : ∀ (w : List Tok), (rep x y w).flatten = w.flatten := by
  intro w
  induction w using scan_induction x y with
  | nil => rw [rep_nil]
  | single a => rw [rep_single]
  | hit r ih => rw [rep_match, List.flatten_cons, ih, List.flatten_cons, List.flatten_cons, List.append_assoc]
  | miss a b r hne ih => rw [rep_nomatch x y a b r hne, List.flatten_cons, ih]; rfl

theorem rep_mem (x y : Tok) : ∀ (w : List Tok) (t : Tok), t ∈ rep x y w → t ∈ w ∨ t = x ++ y := by
  intro w
  induction w using scan_induction x y with
  | nil => intro t h; rw [rep_nil] at h; exact Or.inl h
  | single a => intro t h; rw [rep_single] at h; exact Or.inl h
  | hit r ih =>
    intro t ht
    rw [rep_match] at ht
    rcases List.mem_cons.mp ht with ht | ht
    · exact Or.inr ht
    · exact (ih t ht).imp_left fun h1 => List.mem_cons_of_mem _ (List.mem_cons_of_mem _ h1)
  | miss a b r hne ih =>
    intro t ht
    rw [rep_nomatch x y a b r hne] at ht
    rcases List.mem_cons.mp ht with ht | ht
    · exact Or.inl (ht ▸ List.mem_cons_self)
    · exact (ih t ht).imp_left (List.mem_cons_of_mem _)

theorem rep_split (x y : Tok) : ∀ (W A B : List Tok), rep x y W = A ++ B →
    ∃ A' B', W = A' ++ B' ∧ rep x y A' = A ∧ rep x y B' = B := by
  intro W
  induction W using scan_induction x y with
  | nil =>
    intro A B h
    rw [rep_nil] at h
    have := List.append_eq_nil_iff.mp h.symm
    exact ⟨[], [], rfl, by rw [rep_nil, this.1], by rw [rep_nil, this.2]⟩
  | single a =>
    intro A B h
    rw [rep_single] at h
    cases A with
    | nil => exact ⟨[], [a], rfl, rep_nil x y, by rw [rep_single]; exact h⟩
    | cons a0 A1 =>
      simp only [List.cons_append, List.cons.injEq] at h
      have := List.append_eq_nil_iff.mp h.2.symm
      refine ⟨[a], [], rfl, ?_, ?_⟩
      · rw [rep_single, ← h.1, this.1]
      · rw [rep_nil, this.2]
  | hit r ih =>
    intro A B h
    cases A with
    | nil => exact ⟨[], x :: y :: r, rfl, rep_nil x y, h⟩
    | cons a0 A1 =>
      rw [rep_match] at h
      simp only [List.cons_append, List.cons.injEq] at h
      obtain ⟨A1', B', h1, h2, h3⟩ := ih A1 B h.2
      refine ⟨x :: y :: A1', B', by rw [h1]; rfl, ?_, h3⟩
      rw [rep_match, h2, h.1]
  | miss a b r hne ih =>
    intro A B h
    cases A with
    | nil => exact ⟨[], a :: b :: r, rfl, rep_nil x y, h⟩
    | cons a0 A1 =>
      rw [rep_nomatch x y a b r hne] at h
      simp only [List.cons_append, List.cons.injEq] at h
      obtain ⟨A1', B', h1, h2, h3⟩ := ih A1 B h.2
      refine ⟨a :: A1', B', by rw [h1]; rfl, ?_, h3⟩
      cases A1' with
      | nil => rw [rep_single, ← h.1, ← h2, rep_nil]
      | cons b' t =>
        simp only [List.cons_append, List.cons.injEq] at h1
        rw [← h1.1, rep_nomatch x y a b t hne, ← h.1, ← h2, ← h1.1]

theorem rep_infix (x y : Tok) (W R : List Tok) (h : R <:+: rep x y W) : ∃ R', R' <:+: W ∧ rep x y R' = R := by
  obtain ⟨A, B, hAB⟩ := h
  rw [List.append_assoc] at hAB
  obtain ⟨A', T, h1, _, h3⟩ := rep_split x y W A (R ++ B) hAB.symm
  obtain ⟨R', B', h4, h5, _⟩ := rep_split x y T R B h3
  refine ⟨R', ⟨A', B', ?_⟩, h5⟩
  rw [h1, h4, List.append_assoc]

/-- pairs decremented by the old-word loop: for every merged occurrence its left neighbour pair (unless it is the right
neighbour pair of the previous occurrence, already emitted) and its right neighbour pair -/
def decsN (x y : Tok) : Option Tok → List Tok → List BPair
  | _, [] => []
  | _, [_] => []
  | prev, a :: b :: r =>
    if a == x && b == y then optPair prev a ++ headPair b r ++ decsN x y none r else decsN x y (some a) (b :: r)

def incsN (m : Tok) : Option Tok → List Tok → List BPair
  | _, [] => []
  | prev, a :: r => if a == m then optPair prev a ++ headPair a r ++ incsN m none r else incsN m (some a) r

theorem decsN_nil (x y : Tok) (prev : Option Tok) : decsN x y prev [] = [] := by rw [decsN]
theorem decsN_single (x y a : Tok) (prev : Option Tok) : decsN x y prev [a] = [] := by rw [decsN]
theorem decsN_match (x y : Tok) (prev : Option Tok) (r : List Tok) :
    decsN x y prev (x :: y :: r) = optPair prev x ++ headPair y r ++ decsN x y none r := by
  rw [decsN]; simp
theorem decsN_nomatch (x y a b : Tok) (prev : Option Tok) (r : List Tok) (h : ¬ (a = x ∧ b = y)) :
    decsN x y prev (a :: b :: r) = decsN x y (some a) (b :: r) := by
  rw [decsN, isPair_false h]; rfl
theorem incsN_nil (m : Tok) (prev : Option Tok) : incsN m prev [] = [] := by rw [incsN]
theorem incsN_hit (m : Tok) (prev : Option Tok) (r : List Tok) :
    incsN m prev (m :: r) = optPair prev m ++ headPair m r ++ incsN m none r := by
  rw [incsN]; simp
theorem incsN_miss (m a : Tok) (prev : Option Tok) (r : List Tok) (h : a ≠ m) :
    incsN m prev (a :: r) = incsN m (some a) r := by
  rw [incsN]
  have : (a == m) = false := by simpa using h
  rw [this]; rfl

theorem decsN_prev_irrel (x y : Tok) (p p' : Option Tok) (l : List Tok)
    (h : ∀ a b r, l = a :: b :: r → ¬ (a = x ∧ b = y)) : decsN x y p l = decsN x y p' l := by
  match l with
  | [] => rw [decsN_nil, decsN_nil]
  | [a] => rw [decsN_single, decsN_single]
  | a :: b :: r => rw [decsN_nomatch x y a b p r (h a b r rfl), decsN_nomatch x y a b p' r (h a b r rfl)]

/-- **the single-word lemma**: the net effect of the two loops on the multiset of adjacent pairs -/
theorem count_balance (x y : Tok) (q : BPair) (hq : q ≠ (x, y)) :
    ∀ (w : List Tok) (prev : Option Tok), (x ++ y) ∉ w →
      cnt q (pairsP prev w) + cnt q (incsN (x ++ y) prev (rep x y w)) =
        cnt q (pairsP prev (rep x y w)) + cnt q (decsN x y prev w) := by
  intro w
  induction w using scan_induction x y with
  | nil => intro prev _; rw [rep_nil, incsN_nil, decsN_nil]
  | single a =>
    intro prev hm
    rw [rep_single, decsN_single, incsN_miss _ a _ _ (fun h => hm (by rw [h]; exact List.mem_singleton_self _)), incsN_nil]
  | hit r ih =>
    intro prev hm
    have := ih none fun h => hm (List.mem_cons_of_mem _ (List.mem_cons_of_mem _ h))
    have hxy : cnt q (headPair x (y :: r)) = 0 := cnt_headPair_zero q x _ fun c hc => by cases hc; exact hq.symm
    rw [pairsP_none, pairsP_none] at this
    rw [rep_match, incsN_hit, decsN_match, pairsP_cons, pairsP_cons, wordPairs_cons]
    simp only [cnt_append]
    omega
  | miss a b r hne ih =>
    intro prev hm
    have := ih (some a) fun h => hm (List.mem_cons_of_mem _ h)
    rw [rep_nomatch x y a b r hne, incsN_miss _ a _ _ (fun h => hm (by rw [h]; exact List.mem_cons_self)),
      decsN_nomatch x y a b prev r hne, pairsP_cons, pairsP_cons]
    simp only [pairsP, wordPairs_cons a, cnt_append] at this ⊢
    omega

/-- the decrements are occurrences of the old word: no counter of a pair other than the merged one (which is zeroed
beforehand) saturates -/
theorem decs_le (x y : Tok) (q : BPair) :
    ∀ (w : List Tok) (prev : Option Tok), cnt q (decsN x y prev w) ≤ cnt q (pairsP prev w) := by
  intro w
  induction w using scan_induction x y with
  | nil => intro prev; rw [decsN_nil]; exact Nat.zero_le _
  | single a => intro prev; rw [decsN_single]; exact Nat.zero_le _
  | hit r ih =>
    intro prev
    have := ih none
    rw [pairsP_none] at this
    rw [decsN_match, pairsP_cons, wordPairs_cons]
    simp only [cnt_append]
    omega
  | miss a b r hne ih =>
    intro prev
    have := ih (some a)
    rw [decsN_nomatch x y a b prev r hne, pairsP_cons]
    simp only [pairsP, wordPairs_cons a (b :: r), cnt_append] at this ⊢
    omega

theorem incsN_mem (m : Tok) : ∀ (l : List Tok) (prev : Option Tok) (q : BPair), q ∈ incsN m prev l → q.1 = m ∨ q.2 = m := by
  intro l
  induction l with
  | nil => intro prev q h; rw [incsN_nil] at h; cases h
  | cons a r ih =>
    intro prev q h
    by_cases ha : a = m
    · subst ha
      rw [incsN_hit] at h
      simp only [List.mem_append] at h
      rcases h with (h | h) | h
      · cases prev with
        | none => simp [optPair] at h
        | some p => simp [optPair] at h; right; rw [h]
      · cases r with
        | nil => simp [headPair] at h
        | cons c r' => simp [headPair] at h; left; rw [h]
      · exact ih none q h
    · rw [incsN_miss m a prev r ha] at h
      exact ih (some a) q h

theorem incs_xy_zero (x y : Tok) (hx : x ≠ []) (hy : y ≠ []) (l : List Tok) (prev : Option Tok) :
    cnt (x, y) (incsN (x ++ y) prev l) = 0 := by
  apply cnt_eq_zero_of_not_mem
  intro h
  rcases incsN_mem _ l prev _ h with h | h
  · exact hy (List.append_right_eq_self.mp h.symm)
  · exact hx (List.append_left_eq_self.mp h.symm)

theorem rep_xy_zero (x y : Tok) (hx : x ≠ []) (hy : y ≠ []) : ∀ w : List Tok, cnt (x, y) (wordPairs (rep x y w)) = 0 := by
  intro w
  induction w using scan_induction x y with
  | nil => rw [rep_nil]; rfl
  | single a => rw [rep_single]; rfl
  | hit r ih =>
    rw [rep_match, wordPairs_cons, cnt_append, ih, cnt_headPair_zero]
    intro c _ h
    exact hy (List.append_right_eq_self.mp (Prod.mk.inj h).1)
  | miss a b r hne ih =>
    rw [rep_nomatch x y a b r hne, wordPairs_cons, cnt_append, ih, cnt_headPair_zero]
    intro c hc h
    obtain ⟨rfl, rfl⟩ := Prod.mk.inj h
    -- the next token of the new word is `b` or the merged token, and neither is `y`
    obtain ⟨t, ht | ⟨_, ht⟩⟩ := rep_head a c b r
    · rw [ht] at hc; exact hne ⟨rfl, Option.some.inj hc⟩
    · rw [ht] at hc; exact hx (List.append_left_eq_self.mp (Option.some.inj hc))

def applyDecs (idx f : Nat) : List BPair → Stats → Option Stats
  | [], st => some st
  | q :: qs, st =>
    match statsDec st q idx f with
    | none => none
    | some st' => applyDecs idx f qs st'

def applyIncs (idx f : Nat) : List BPair → Stats → Stats
  | [], st => st
  | q :: qs, st => applyIncs idx f qs (statsInc st q idx f)

theorem applyDecs_nil (idx f : Nat) (st : Stats) : applyDecs idx f [] st = some st := rfl
theorem applyDecs_cons (idx f : Nat) (q : BPair) (qs : List BPair) (st : Stats) :
    applyDecs idx f (q :: qs) st = (statsDec st q idx f).bind (applyDecs idx f qs) := by
  rw [applyDecs]
  cases statsDec st q idx f <;> rfl
theorem applyDecs_append (idx f : Nat) (l1 l2 : List BPair) (st : Stats) :
    applyDecs idx f (l1 ++ l2) st = (applyDecs idx f l1 st).bind (applyDecs idx f l2) := by
  induction l1 generalizing st with
  | nil => rfl
  | cons q qs ih =>
    rw [List.cons_append, applyDecs_cons, applyDecs_cons]
    cases statsDec st q idx f with
    | none => rfl
    | some st' => simp only [Option.bind_some]; exact ih st'

theorem applyIncs_nil (idx f : Nat) (st : Stats) : applyIncs idx f [] st = st := rfl
theorem applyIncs_cons (idx f : Nat) (q : BPair) (qs : List BPair) (st : Stats) :
    applyIncs idx f (q :: qs) st = applyIncs idx f qs (statsInc st q idx f) := rfl
theorem applyIncs_append (idx f : Nat) (l1 l2 : List BPair) (st : Stats) :
    applyIncs idx f (l1 ++ l2) st = applyIncs idx f l2 (applyIncs idx f l1 st) := by
  induction l1 generalizing st with
  | nil => rfl
  | cons q qs ih => rw [List.cons_append, applyIncs_cons, applyIncs_cons, ih]

theorem applyDecs_optPair_nil (idx f : Nat) (a : Tok) (st : Stats) : applyDecs idx f (optPair none a) st = some st := rfl
theorem applyDecs_single (idx f : Nat) (q : BPair) (st : Stats) : applyDecs idx f [q] st = statsDec st q idx f := by
  rw [applyDecs_cons]
  cases statsDec st q idx f <;> rfl

end Tu.BpeTrainIncL

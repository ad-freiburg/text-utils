/-
  Lemmas for the calibration clauses of the spelling counts (C13): an admissible matching of a word sequence with
  itself is the identity (`matchAccept_self_eq`); `word_boundaries` versus `split_ascii_whitespace` word counts on
  whitespace-clean texts; `spellCountsWith` clause by clause.
-/
import TuModel.Model.Metrics
import TuModel.Lemmas.GroupWordsL
import TuModel.Lemmas.TextL
import TuModel.Lemmas.ListL
import TuModel.Lemmas.MatchAcceptL
import TuModel.Props.C18
namespace Tu

theorem incr_eq_range {l : List Nat} {n : Nat} (hp : l.Pairwise (· < ·)) (hb : ∀ x ∈ l, x < n) (hn : n ≤ l.length) :
    l = List.range n :=
  eq_of_perm_of_lt_sorted (perm_of_nodup_subset l (List.range n) (hp.imp Nat.ne_of_lt)
    (fun x hx => List.mem_range.mpr (hb x hx)) (by rwa [List.length_range])) hp List.pairwise_lt_range

/-- both index lists are strictly increasing in `[0, n)` and, the longest common subsequence of `w` with itself
being `w`, have `n` elements -/
theorem matchAccept_self_eq (w : List (List Nat)) (m : List (Nat × Nat)) (h : matchAccept w w m = true) :
    m = (List.range w.length).map (fun k => (k, k)) := by
  obtain ⟨hinc, hb, _⟩ := (matchAccept_iff w w m).mp h
  have hlen := C18.matchAccept_length w w m h
  have hup := C18.lcs_upper w w w (List.Sublist.refl _) (List.Sublist.refl _)
  have h1 : m.map Prod.fst = List.range w.length := incr_eq_range (List.pairwise_map.mpr (hinc.imp And.left))
    (fun x hx => by obtain ⟨q, hq, rfl⟩ := List.mem_map.mp hx; exact (hb q hq).1)
    (by rw [List.length_map]; omega)
  have h2 : m.map Prod.snd = List.range w.length := incr_eq_range (List.pairwise_map.mpr (hinc.imp And.right))
    (fun x hx => by obtain ⟨q, hq, rfl⟩ := List.mem_map.mp hx; exact (hb q hq).2.1)
    (by rw [List.length_map]; omega)
  rw [← List.zip_unzip m, List.unzip_eq_map, h1, h2, ← List.zip_map']
  simp

theorem matchAccept_self_full (w : List (List Nat)) (m : List (Nat × Nat)) (h : matchAccept w w m = true) :
    (∀ k, k < w.length → k ∈ m.map Prod.fst) ∧ (∀ k, k < w.length → k ∈ m.map Prod.snd) := by
  rw [matchAccept_self_eq w m h]
  simp

/-- number of words of a code-point string; the flag says whether a word is being read -/
def nwCp : List Nat → Bool → Nat
  | [], b => if b then 1 else 0
  | c :: cs, b => if isAsciiWs c then (if b then 1 else 0) + nwCp cs false else nwCp cs true

theorem splitAsciiWsAux_length (s cur : List Nat) : (splitAsciiWsAux s cur).length = nwCp s (!cur.isEmpty) := by
  fun_induction splitAsciiWsAux s cur with
  | case1 cur h => rw [h]; rfl
  | case2 cur h => rw [Bool.eq_false_iff.mpr h]; rfl
  | case3 c cs cur hc he ih => rw [nwCp, if_pos hc, he, ih]; exact (Nat.zero_add _).symm
  | case4 c cs cur hc he ih => rw [nwCp, if_pos hc, Bool.eq_false_iff.mpr he, List.length_cons, ih, Nat.add_comm]; rfl
  | case5 c cs cur hc ih => rw [nwCp, if_neg hc, ih]; rfl

theorem splitAsciiWs_length (s : List Nat) : (splitAsciiWs s).length = nwCp s false := by
  unfold splitAsciiWs
  rw [splitAsciiWsAux_length]; rfl

theorem isAsciiWs_eq_false {k : Nat} (h : isWsCp k = false) : isAsciiWs k = false := by
  cases ha : isAsciiWs k with
  | false => rfl
  | true =>
    simp only [isAsciiWs, Bool.or_eq_true, beq_iff_eq] at ha
    rcases ha with (((rfl | rfl) | rfl) | rfl) | rfl <;> cases h

theorem nwCp_true_le (s : List Nat) : nwCp s true ≤ nwCp s false + 1 := by
  cases s with
  | nil => simp [nwCp]
  | cons c cs =>
    rw [nwCp, nwCp]
    split
    · rw [if_pos rfl, if_neg Bool.false_ne_true]; omega
    · exact Nat.le_succ _

theorem nwCp_append_ge (c rest : List Nat) : nwCp rest true ≤ nwCp (c ++ rest) true := by
  induction c with
  | nil => exact Nat.le_refl _
  | cons k d ih =>
    rw [List.cons_append, nwCp]
    split
    · have := nwCp_true_le (d ++ rest)
      rw [if_pos rfl]
      omega
    · exact ih

/-- a cluster that is not white space starts (or continues) a word -/
theorem nwCp_nonws_ge {c : List Nat} (hw : isWsCl c = false) (rest : List Nat) (b : Bool) :
    nwCp rest true ≤ nwCp (c ++ rest) b := by
  induction c generalizing b with
  | nil => cases hw
  | cons k d ih =>
    rw [List.cons_append, nwCp]
    cases hk : isAsciiWs k
    · exact nwCp_append_ge d rest
    · have hkw : isWsCp k = true := by
        cases h : isWsCp k
        · rw [isAsciiWs_eq_false h] at hk; cases hk
        · rfl
      have := ih (by rwa [isWsCl, List.all_cons, hkw, Bool.true_and] at hw) false
      rw [if_pos rfl]
      omega

/-- a non-empty cluster without white space: exactly "a word is being read" -/
theorem nwCp_nonws_eq {c : List Nat} (hne : c ≠ []) (hu : c.all (fun x => !isWsCp x) = true) (rest : List Nat)
    (b : Bool) : nwCp (c ++ rest) b = nwCp rest true := by
  induction c generalizing b with
  | nil => exact absurd rfl hne
  | cons k d ih =>
    rw [List.all_cons, Bool.and_eq_true, Bool.not_eq_true'] at hu
    rw [List.cons_append, nwCp, isAsciiWs_eq_false hu.1, if_neg Bool.false_ne_true]
    cases d with
    | nil => rfl
    | cons k' d' => exact ih (List.cons_ne_nil _ _) hu.2 true

/-- after a character of a text in whitespace normal form: `split_ascii_whitespace` finds at least one word per
non-white-space run (a white-space cluster is the single space), and exactly one when no cluster mixes white space
with other code points -/
theorem nwCp_cleanCh {r : List (List Nat)} (h : CleanCh r) :
    r.countP isWsCl + 1 ≤ nwCp r.flatten true ∧ (unmixed r = true → nwCp r.flatten true = r.countP isWsCl + 1) := by
  induction h with
  | nil => exact ⟨Nat.le_refl _, fun _ => rfl⟩
  | @ch c r hw _ ih =>
    rw [List.flatten_cons, List.countP_cons_of_neg (Bool.eq_false_iff.mp hw)]
    refine ⟨Nat.le_trans ih.1 (nwCp_nonws_ge hw _ _), fun hu => ?_⟩
    obtain ⟨⟨hne, hc⟩, hr⟩ := unmixed_cons_nonws hw hu
    rw [nwCp_nonws_eq hne hc, ih.2 hr]
  | @sep c r hw _ ih =>
    have hs (X : List Nat) : nwCp (sp ++ X) true = nwCp X false + 1 := by simp [sp, nwCp, isAsciiWs, Nat.add_comm]
    rw [List.flatten_cons, List.flatten_cons, hs, List.countP_cons_of_pos isWsCl_sp,
      List.countP_cons_of_neg (Bool.eq_false_iff.mp hw), Nat.add_le_add_iff_right, Nat.add_right_cancel_iff]
    refine ⟨Nat.le_trans ih.1 (nwCp_nonws_ge hw _ _), fun hu => ?_⟩
    obtain ⟨⟨hne, hc⟩, hr⟩ := unmixed_cons_nonws hw (Bool.and_eq_true_iff.mp (unmixed_cons sp _ ▸ hu)).2
    rw [nwCp_nonws_eq hne hc, ih.2 hr]

theorem wordBoundaries_length_split {s : List (List Nat)} (h : CleanB s = true) :
    (wordBoundaries s).length ≤ (splitAsciiWs s.flatten).length ∧
      (unmixed s = true → (wordBoundaries s).length = (splitAsciiWs s.flatten).length) := by
  match s with
  | [] => exact ⟨Nat.le_refl _, fun _ => rfl⟩
  | c :: r =>
    obtain ⟨hw, hr⟩ := CleanB_cons.mp h
    have ih := nwCp_cleanCh hr
    rw [wordBoundaries_length h (List.cons_ne_nil _ _), splitAsciiWs_length, List.flatten_cons,
      List.countP_cons_of_neg (Bool.eq_false_iff.mp hw)]
    refine ⟨Nat.le_trans ih.1 (nwCp_nonws_ge hw _ _), fun hu => ?_⟩
    obtain ⟨⟨hne, hc⟩, hr⟩ := unmixed_cons_nonws hw hu
    rw [nwCp_nonws_eq hne hc, ih.2 hr]

theorem spellSubOk_iff {i p t : List (List Nat)} {sub : SpellSub} :
    spellSubOk i p t sub = true ↔
      matchAccept (splitAsciiWs i.flatten) (splitAsciiWs t.flatten) sub.mit = true ∧
      matchAccept (splitAsciiWs i.flatten) (splitAsciiWs p.flatten) sub.mip = true ∧
      matchAccept (splitAsciiWs p.flatten) (splitAsciiWs t.flatten) sub.mpt = true ∧
      scriptAccept { swap := false, sid := true } i p sub.ops = true := by
  simp only [spellSubOk, Bool.and_eq_true, and_assoc]

theorem spellCountsWith_eq_some {i p t : List (List Nat)} {sub : SpellSub} {c : Counts}
    (h : spellCountsWith i p t sub = some c) :
    ∃ correct, groupWordsWith sub.ops i p (sub.mpt.map Prod.fst) = some correct ∧
      c = (let misspelled := (editedWords (splitAsciiWs i.flatten).length (splitAsciiWs t.flatten).length sub.mit).2
           let changed := (editedWords (splitAsciiWs i.flatten).length (splitAsciiWs p.flatten).length sub.mip).1
           let restored := sub.mpt.map Prod.snd
           { empty := misspelled.isEmpty && changed.isEmpty,
             tp := (misspelled.filter (fun x => restored.contains x)).length,
             fp := (changed.filter (fun x => !correct.contains x)).length,
             fn := (misspelled.filter (fun x => !restored.contains x)).length }) := by
  unfold spellCountsWith at h
  simp only [] at h
  split at h
  · cases h
  · rename_i correct hg
    exact ⟨correct, hg, (Option.some.inj h).symm⟩

theorem spellCountsWith_fn_zero (i p t : List (List Nat)) (sub : SpellSub) (c : Counts)
    (h : spellCountsWith i p t sub = some c)
    (hM : ∀ k, k < (splitAsciiWs t.flatten).length → k ∈ sub.mpt.map Prod.snd) : c.fn = 0 := by
  obtain ⟨correct, _, rfl⟩ := spellCountsWith_eq_some h
  simp only [List.length_eq_zero_iff, List.filter_eq_nil_iff]
  intro a ha
  simp [List.contains_eq_mem, hM a ((C18.edited_eq_complement _ _ _ a).2.mp ha).1]

theorem spellCountsWith_fp_zero (i p t : List (List Nat)) (sub : SpellSub) (c : Counts)
    (h : spellCountsWith i p t sub = some c)
    (hM : ∀ k, k < (wordBoundaries p).length → k ∈ sub.mpt.map Prod.fst)
    (hlen : (splitAsciiWs i.flatten).length ≤ (wordBoundaries i).length) : c.fp = 0 := by
  obtain ⟨correct, hg, rfl⟩ := spellCountsWith_eq_some h
  simp only [List.length_eq_zero_iff, List.filter_eq_nil_iff]
  intro a ha
  have := groupWordsWith_full _ _ _ _ _ hg
    (fun k hk => by rw [List.contains_eq_mem]; exact decide_eq_true (hM k hk)) a
    (Nat.lt_of_lt_of_le ((C18.edited_eq_complement _ _ _ a).1.mp ha).1 hlen)
  simp [List.contains_eq_mem, this]

theorem spellCountsWith_tp_zero (i p t : List (List Nat)) (sub : SpellSub) (c : Counts)
    (h : spellCountsWith i p t sub = some c)
    (hm : ∀ x ∈ sub.mpt.map Prod.snd, x ∈ sub.mit.map Prod.snd) : c.tp = 0 := by
  obtain ⟨correct, _, rfl⟩ := spellCountsWith_eq_some h
  rw [List.length_eq_zero_iff, List.filter_eq_nil_iff]
  intro a ha hr
  have hn := (List.mem_filter.mp ha).2
  rw [List.contains_eq_mem, decide_eq_true (hm a (List.contains_iff_mem.mp hr))] at hn
  cases hn

end Tu

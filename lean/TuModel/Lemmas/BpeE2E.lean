/-
  End-to-end lemmas for the BPE tokenizer: word-wise tokenization flattened, decoding of
  concatenations, of vocabulary ids and with special tokens ignored, what `mkBpeCfg` returns.
-/
import TuModel.Model.Bpe
import TuModel.Lemmas.SpecialL
namespace Tu

theorem mapM_flatten_decode (f : List Nat → Option (List Nat)) (g : Nat → List Nat)
    (enc : List Nat → List Nat) (P : Nat → Prop) :
    ∀ (ws : List (List Nat)),
      (∀ w ∈ ws, ∃ ids, f w = some ids ∧ ids.flatMap g = enc w ∧ ∀ id ∈ ids, P id) →
      ∃ idss, ws.mapM f = some idss ∧ idss.flatten.flatMap g = ws.flatMap enc ∧ ∀ id ∈ idss.flatten, P id := by
  intro ws
  induction ws with
  | nil => intro _; exact ⟨[], rfl, rfl, by simp⟩
  | cons w ws ih =>
    intro h
    obtain ⟨ids, h1, h2, h3⟩ := h w List.mem_cons_self
    obtain ⟨idss, i1, i2, i3⟩ := ih (fun w' hw' => h w' (List.mem_cons_of_mem _ hw'))
    refine ⟨ids :: idss, ?_, ?_, ?_⟩
    · simp [List.mapM_cons, h1, i1]
    · rw [List.flatten_cons, List.flatMap_append, h2, i2, List.flatMap_cons]
    · intro id hid
      rw [List.flatten_cons, List.mem_append] at hid
      rcases hid with hid | hid
      · exact h3 id hid
      · exact i3 id hid

theorem bpeDetokBytes_append (cfg : BpeCfg) (ign : Bool) (a b : List Nat) :
    bpeDetokBytes cfg ign (a ++ b) =
      (bpeDetokBytes cfg ign a).bind (fun x => (bpeDetokBytes cfg ign b).map (x ++ ·)) := by
  induction a with
  | nil => exact (Option.map_id' (x := bpeDetokBytes cfg ign b)).symm
  | cons id ids ih =>
    simp only [List.cons_append, bpeDetokBytes]
    split
    · split
      · rw [ih, map_bind_append _ fun _ _ => (List.append_assoc _ _ _).symm]
      · rfl
    split
    · exact ih
    split
    · rw [ih, map_bind_append _ fun _ _ => (List.append_assoc _ _ _).symm]
    · rfl

/-- on vocabulary ids decoding does not look at the `ignore_special_tokens` flag -/
theorem bpeDetokBytes_regular (cfg : BpeCfg) (ign : Bool)
    (hc : ∀ k, k < cfg.table.length → (tbytes cfg.table k).isSome = true) :
    ∀ ids : List Nat, (∀ id ∈ ids, id < 256 + cfg.table.length) → bpeDetokBytes cfg ign ids =
      some (ids.flatMap fun id => if id < 256 then [id] else (tbytes cfg.table (id - 256)).getD [])
  | [], _ => rfl
  | id :: ids, h => by
    have h1 := h id List.mem_cons_self
    rw [bpeDetokBytes, if_pos h1, bpeDetokBytes_regular cfg ign hc ids fun x hx => h x (List.mem_cons_of_mem _ hx),
      bpeIdBytes, if_pos h1, List.flatMap_cons]
    by_cases h2 : id < 256
    · rw [if_pos h2, if_pos h2]; rfl
    · obtain ⟨b, hb⟩ := Option.isSome_iff_exists.1 (hc (id - 256) (by omega))
      rw [if_neg h2, if_neg h2, hb]; rfl

theorem bpeDetokBytes_ignore (cfg : BpeCfg) (hc : ∀ k, k < cfg.table.length → (tbytes cfg.table k).isSome = true) :
    ∀ ids : List Nat, bpeDetokBytes cfg true ids = some ((ids.filter (· < 256 + cfg.table.length)).flatMap
      fun id => if id < 256 then [id] else (tbytes cfg.table (id - 256)).getD [])
  | [] => rfl
  | id :: ids => by
    rw [bpeDetokBytes, bpeDetokBytes_ignore cfg hc ids, List.filter_cons]
    by_cases h : id < 256 + cfg.table.length
    · rw [if_pos h, if_pos (decide_eq_true h), bpeIdBytes, if_pos h, List.flatMap_cons]
      by_cases h2 : id < 256
      · rw [if_pos h2, if_pos h2]; rfl
      · obtain ⟨b, hb⟩ := Option.isSome_iff_exists.1 (hc (id - 256) (by omega))
        rw [if_neg h2, if_neg h2, hb]; rfl
    · rw [if_neg h, if_pos rfl, if_neg (mt of_decide_eq_true h)]

theorem mkBpeCfg_spec {t : MTable} {mv : Option Nat} {tokens : List (List Nat)} {pad : List Nat}
    {pre suf : List (List Nat)} {cfg : BpeCfg} (h : mkBpeCfg t mv tokens pad pre suf = some cfg) :
    cfg.table = truncateTable t mv tokens.length ∧
      mkSpecial (256 + cfg.table.length) tokens pad pre suf = some cfg.sp := by
  unfold mkBpeCfg at h
  simp only [Option.map_eq_some_iff] at h
  obtain ⟨sp, hsp, rfl⟩ := h
  exact ⟨rfl, hsp⟩

end Tu

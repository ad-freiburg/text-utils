/-
  The relational acceptance test `scriptAccept` (Model/Edit.lean), clause by clause.
-/
import TuModel.Model.Edit
import TuModel.Lemmas.FlatTable
namespace Tu

theorem scriptSorted_cons_cons (p q : EKind × Nat × Nat) (rest : List (EKind × Nat × Nat)) :
    scriptSorted (p :: q :: rest) = true ↔ (p.2.1 ≤ q.2.1 ∧ p.2.2 ≤ q.2.2) ∧ scriptSorted (q :: rest) = true := by
  rw [scriptSorted, Bool.and_eq_true, Bool.and_eq_true, decide_eq_true_eq, decide_eq_true_eq]

theorem scriptSorted_iff_pairwise (l : List (EKind × Nat × Nat)) :
    scriptSorted l = true ↔ l.Pairwise (fun p q => p.2.1 ≤ q.2.1 ∧ p.2.2 ≤ q.2.2) :=
  adjacent_iff_pairwise (fun h1 h2 => ⟨Nat.le_trans h1.1 h2.1, Nat.le_trans h1.2 h2.2⟩) scriptSorted rfl (fun _ => rfl)
    scriptSorted_cons_cons l

theorem opOk_iff (fl : EFlags) (a b : List (List Nat)) (p : EKind × Nat × Nat) :
    opOk fl a b p = true ↔
      (p.1 = EKind.insert → p.2.2 < b.length ∧ p.2.1 ≤ a.length) ∧
      (p.1 = EKind.delete → p.2.1 < a.length) ∧
      (p.1 = EKind.replace → p.2.1 < a.length ∧ p.2.2 < b.length ∧
        canReplace fl (a.getD p.2.1 []) (b.getD p.2.2 []) = true) ∧
      (p.1 = EKind.swap → fl.swap = true ∧ p.2.1 + 1 < a.length ∧
        canReplace fl (a.getD p.2.1 []) (a.getD (p.2.1 + 1) []) = true) := by
  obtain ⟨k, i, j⟩ := p
  cases k <;> simp only [opOk, Bool.and_eq_true, decide_eq_true_eq, and_assoc, reduceCtorEq, false_implies,
    forall_const, and_self, and_true, true_and]

theorem scriptAccept_iff (fl : EFlags) (a b : List (List Nat)) (ops : List (EKind × Nat × Nat)) :
    scriptAccept fl a b ops = true ↔
      ops.length = editDistance fl a b ∧ scriptSorted ops = true ∧ (∀ p ∈ ops, opOk fl a b p = true) ∧
      applyScript a b ops 0 = b := by
  unfold scriptAccept
  simp only [Bool.and_eq_true, beq_iff_eq, List.all_eq_true, and_assoc]

end Tu

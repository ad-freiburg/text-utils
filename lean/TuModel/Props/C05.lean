/-
  C05 — the threaded pipeline is a sequential map under every schedule.
  Model: `Tu.pstep` (Model/Pipe.lean), the interleaving semantics of the `Pipe` worker loop and
  `Pipe::next`.  All statements are about every state reachable under any schedule (`PReach`);
  they follow from the inductive invariant `Tu.PInv` (Lemmas/PipeInv.lean).
-/
import TuModel.Lemmas.PipeProg
namespace Tu.C05
open Tu
-- only `pipe_deadlock_free(_gen)` uses `1 ≤ W`; the other statements carry the hypothesis so that all have the same shape
set_option linter.unusedVariables false

/-! ### any upstream (`src k` = the `k`-th call of `upstream.next()` yields an item; it need not be fused) -/

/-- no loss, no duplication, no reordering, each item processed at most once — in every reachable state;
the `enumerate` counter is the number of items among the answers so far, and every `None` ended a worker of
its own, so at most `W` of them were consumed -/
theorem pipe_safety_gen (W : Nat) (src : Nat → Bool) (hW : 1 ≤ W) (s : PState) (h : PReach W src s) :
    s.next = itemsBefore src s.pulls ∧ s.chan.length ≤ W ∧ (∀ i, s.calls i ≤ 1) ∧
    (s.dropped = false → s.recvd ++ s.chan = List.range (s.recvd ++ s.chan).length) ∧
    (∀ w w' i, w < W → w' < W → holds s w i → holds s w' i → w = w') ∧
    gapsBefore src s.pulls ≤ W := by
  have hi := inv_reach h
  have g := hi.counters
  cases hi.hW
  refine ⟨g.next_eq, g.chan_le, ?_, ?_, ?_, ?_⟩
  · intro i
    rcases g.calls i with ⟨_, h1⟩ | ⟨_, h1⟩ <;> omega
  · intro hd
    have := g.fifo hd
    rw [this, List.length_range]
  · intro w w' i hw hw' h1 h2
    exact hi.own_unique hw hw' ((holds_iff s w i).mp h1) ((holds_iff s w' i).mp h2)
  · exact Nat.le_trans g.gaps_le (wsum_ex_le s.pc s.W)

/-- when the iteration has ended (the consumer got `None`) it delivered exactly the items that come before
the `W`-th `None` of the upstream, in order, and every one of them was processed exactly once -/
theorem pipe_complete_gen (W : Nat) (src : Nat → Bool) (hW : 1 ≤ W) (s : PState) (h : PReach W src s)
    (hc : s.closed = true) :
    s.recvd = List.range s.next ∧ (∀ i, i < s.next → s.calls i = 1) ∧ gapsBefore src s.pulls = W := by
  have hi := inv_reach h
  have g := hi.counters
  cases hi.hW
  obtain ⟨hall, hch, hdr⟩ := hi.closed_ hc
  -- all workers have exited, so every sum but that of `ex` vanishes
  have z : ∀ f : PC → Nat, f .exited = 0 → wsum s.W s.pc f = 0 := fun f hf => by
    rw [wsum_all hall, hf, Nat.zero_mul]
  have hf := g.fifo hdr
  have hn := g.count
  rw [z PC.snt rfl, hch, List.append_nil] at hf
  rw [z PC.busy rfl] at hn
  refine ⟨by rw [hf, hn], fun i hin => ?_, ?_⟩
  · have := g.calls i
    rw [z (PC.hold i) rfl] at this
    omega
  · rw [← g.gaps_eq hdr, wsum_all hall, ex_exited, Nat.one_mul]

/-- the position of the end: no call of `upstream.next()` is made after the `W`-th `None` -/
theorem pipe_pulls_minimal (W : Nat) (src : Nat → Bool) (hW : 1 ≤ W) (s : PState) (h : PReach W src s) :
    ∀ k, k < s.pulls → gapsBefore src k < W :=
  (inv_reach h).counters.pulls_min

/-- the closed formula: over the upstream that answers as `entries` and then `None` for ever, a completed
iteration delivered `gapDelivered W entries` items -/
theorem pipe_complete_gapDelivered (W : Nat) (entries : List Bool) (hW : 1 ≤ W) (s : PState)
    (h : PReach W (srcOf entries) s) (hc : s.closed = true) :
    s.recvd = List.range (gapDelivered W entries) := by
  have hi := inv_reach h
  obtain ⟨hr, _, hg⟩ := pipe_complete_gen W (srcOf entries) hW s h hc
  rw [hr, hi.counters.next_eq, gapDelivered_spec entries W s.pulls hg hi.counters.pulls_min]

/-- no deadlock: unless the consumer is done, some step that makes progress is enabled (for an upstream
that is exhausted from its `N`-th call on) -/
theorem pipe_deadlock_free_gen (W : Nat) (src : Nat → Bool) (hW : 1 ≤ W) (N : Nat)
    (hN : ∀ k, N ≤ k → src k = false) (s : PState) (h : PReach W src s)
    (hc : s.closed = false) (hd : s.dropped = false) :
    ∃ a s', a ≠ PAction.drop ∧ pstep s a = some s' ∧ pmeasure N s' < pmeasure N s := by
  have hi := inv_reach h
  cases hi.hW
  have hN' : ∀ k, N ≤ k → s.src k = false := by rw [hi.hsrc]; exact hN
  cases hch : s.chan with
  | cons x rest =>
    -- something is queued: the consumer can receive
    exact ⟨.recv, _, nofun, (PStep.recv hd hc hch).pstep, measure_recv hch⟩
  | nil =>
    by_cases hall : ∀ w, w < s.W → s.pc w = .exited
    · -- all workers gone and nothing queued: the consumer gets `None`
      exact ⟨.close, _, nofun, (PStep.close hd hc hch hall).pstep, measure_close hc⟩
    · -- some worker is still running, and the channel has room
      obtain ⟨a, s', ha, _, _, hs, hm⟩ := worker_progress hi hN' hall (Or.inr (by rw [hch]; exact hW))
      exact ⟨a, s', ha, hs, hm⟩

/-- every step other than `drop` is a stutter (failed spin) or strictly decreases the measure, so under a
fair scheduler every run over an eventually exhausted upstream terminates -/
theorem pipe_measure_gen (W : Nat) (src : Nat → Bool) (hW : 1 ≤ W) (N : Nat)
    (hN : ∀ k, N ≤ k → src k = false) (s s' : PState) (a : PAction) (h : PReach W src s)
    (ha : a ≠ PAction.drop) (hs : pstep s a = some s') : s' = s ∨ pmeasure N s' < pmeasure N s :=
  pstep_measure (by rw [(inv_reach h).hsrc]; exact hN) ha hs

/-! ### fused upstream of `n` items (`fused n`) -/

/-- no loss, no duplication, no reordering, each item processed at most once — in every reachable state -/
theorem pipe_safety (W n : Nat) (hW : 1 ≤ W) (s : PState) (h : PReach W (fused n) s) :
    s.next ≤ n ∧ s.chan.length ≤ W ∧ (∀ i, s.calls i ≤ 1) ∧
    (s.dropped = false → s.recvd ++ s.chan = List.range (s.recvd ++ s.chan).length) ∧
    (∀ w w' i, w < W → w' < W → holds s w i → holds s w' i → w = w') := by
  obtain ⟨h1, h2, h3, h4, h5, _⟩ := pipe_safety_gen W (fused n) hW s h
  refine ⟨?_, h2, h3, h4, h5⟩
  rw [h1, itemsBefore_fused]; omega

/-- when the iteration has ended (the consumer got `None`) it delivered exactly `f x0, f x1, …` in
order and every item was processed exactly once -/
theorem pipe_complete (W n : Nat) (hW : 1 ≤ W) (s : PState) (h : PReach W (fused n) s) (hc : s.closed = true) :
    s.recvd = List.range n ∧ ∀ i, i < n → s.calls i = 1 := by
  obtain ⟨h1, h2, h3⟩ := pipe_complete_gen W (fused n) hW s h hc
  have hnext : s.next = n := by
    rw [(inv_reach h).counters.next_eq, itemsBefore_fused]
    rw [gapsBefore_fused] at h3
    omega
  rw [hnext] at h1 h2
  exact ⟨h1, h2⟩

/-- no deadlock: unless the consumer is done, some step that makes progress is enabled -/
theorem pipe_deadlock_free (W n : Nat) (hW : 1 ≤ W) (s : PState) (h : PReach W (fused n) s)
    (hc : s.closed = false) (hd : s.dropped = false) :
    ∃ a s', a ≠ PAction.drop ∧ pstep s a = some s' ∧ pmeasure n s' < pmeasure n s :=
  pipe_deadlock_free_gen W (fused n) hW n (fun _ => fused_false) s h hc hd

/-- every step other than `drop` is a stutter (failed spin) or strictly decreases the measure, so under a
fair scheduler every run terminates -/
theorem pipe_measure (W n : Nat) (hW : 1 ≤ W) (s s' : PState) (a : PAction) (h : PReach W (fused n) s)
    (ha : a ≠ PAction.drop) (hs : pstep s a = some s') : s' = s ∨ pmeasure n s' < pmeasure n s :=
  pipe_measure_gen W (fused n) hW n (fun _ => fused_false) s s' a h ha hs

/-! non-vacuity: concrete schedules reach `closed`, and the theorems apply to them -/

example : (prun (PState.init 1 (fused 1)) [.take 0, .compute 0, .spin 0, .send 0, .advance 0, .take 0, .recv, .close]).map
    (fun s => (s.recvd, s.closed)) = some ([0], true) := by decide +kernel

/-- two workers, three items, worker 1 overtakes worker 0 on computing but has to wait for its turn -/
example : (prun (PState.init 2 (fused 3))
    [.take 0, .take 1, .compute 1, .spin 1, .compute 0, .spin 0, .send 0, .advance 0, .spin 1, .send 1,
     .take 0, .recv, .compute 0, .advance 1, .take 1, .spin 0, .send 0, .advance 0, .take 0, .recv, .recv,
     .close]).map
    (fun s => (s.recvd, s.closed, s.next, s.turn, [s.calls 0, s.calls 1, s.calls 2])) =
    some ([0, 1, 2], true, 3, 3, [1, 1, 1]) := by decide +kernel

/-- an upstream that is not fused, two workers: `Some, None, Some, None, Some`.  Worker 0 takes item 0, worker 1
sees the first `None` and exits, worker 0 goes on alone, takes item 1, then sees the second `None`: the
consumer gets items 0 and 1 and then `None`; the fifth answer is never asked for -/
example : (prun (PState.init 2 (srcOf [true, false, true, false, true]))
    [.take 0, .take 1, .compute 0, .spin 0, .send 0, .advance 0, .take 0, .recv, .compute 0, .spin 0, .send 0,
     .advance 0, .take 0, .recv, .close]).map
    (fun s => (s.recvd, s.closed, s.next, s.pulls, [s.calls 0, s.calls 1, s.calls 2])) =
    some ([0, 1], true, 2, 4, [1, 1, 0]) := by decide +kernel

example : gapDelivered 2 [true, false, true, false, true] = 2 := by decide +kernel
example : gapDelivered 1 [true, true, false, true] = 2 ∧ gapDelivered 3 [true, false, true] = 2 ∧
    gapDelivered 2 [false, false, true] = 0 := by decide +kernel

end Tu.C05

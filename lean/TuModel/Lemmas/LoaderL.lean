/-
  Helper lemmas for C08 (loader item selection): arithmetic of residues modulo the world size and
  the filter of a range by a lower bound.
-/
import TuModel.Model.Loader
namespace Tu

theorem filter_ge_range (s n : Nat) : (List.range n).filter (fun i => decide (s ≤ i)) = List.range' s (n - s) := by
  induction n with
  | zero => simp
  | succ n ih =>
    rw [List.range_succ, List.filter_append, ih]
    by_cases h : s ≤ n
    · have e : n + 1 - s = (n - s) + 1 := by omega
      rw [e, List.range'_concat]
      simp [h]
    · have e : n + 1 - s = n - s := by omega
      simp [h, e]

theorem residue_rank (start i W : Nat) (h : start ≤ i) :
    start + (i - start) % W ≤ i ∧ (i - (start + (i - start) % W)) % W = 0 := by
  have hle : (i - start) % W ≤ i - start := Nat.mod_le _ _
  refine ⟨by omega, ?_⟩
  have e : i - (start + (i - start) % W) = W * ((i - start) / W) := by
    have := Nat.div_add_mod (i - start) W
    omega
  rw [e]; exact Nat.mul_mod_right _ _

/-- the rank is determined by the index -/
theorem residue_unique (start i W r : Nat) (hr : r < W) (h1 : start + r ≤ i) (h2 : (i - (start + r)) % W = 0) :
    r = (i - start) % W := by
  have e : i - start = r + W * ((i - (start + r)) / W) := by
    have := Nat.div_add_mod (i - (start + r)) W
    omega
  rw [e, Nat.add_mul_mod_self_left, Nat.mod_eq_of_lt hr]

end Tu

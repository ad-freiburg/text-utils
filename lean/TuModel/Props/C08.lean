/-
  C08 — the loader's item selection: which global indices a rank processes, disjointness and
  coverage across ranks, resumption by fast-forward, train/validation split, `min_items`, seeds,
  and independence of the delivered stream from the number of worker threads.
  Model: `Tu.selectIdx`, `Tu.minItems`, `Tu.itemSeed` (Model/Loader.lean); the thread pipeline is the
  C05 model (`Tu.PReach`).
-/
import TuModel.Lemmas.LoaderL
import TuModel.Props.C05
namespace Tu.C08
open Tu

/-- which global indices a rank processes -/
theorem select_mem (N skip : Nat) (limit : Option Nat) (ff rank W i : Nat) :
    i ∈ selectIdx N skip limit ff rank W ↔
      i < (match limit with | none => N | some l => min N l) ∧ skip + ff + rank ≤ i ∧
        (i - (skip + ff + rank)) % W = 0 := by
  unfold selectIdx
  cases limit <;> simp [List.mem_filter, List.mem_range]

/-- in increasing order, without repetition -/
theorem select_sorted (N skip : Nat) (limit : Option Nat) (ff rank W : Nat) :
    (selectIdx N skip limit ff rank W).Pairwise (· < ·) := by
  unfold selectIdx
  exact List.Pairwise.filter _ List.pairwise_lt_range

/-- the per-rank streams of a world of size W are disjoint … -/
theorem ranks_disjoint (N skip : Nat) (limit : Option Nat) (ff W r r' i : Nat) (hr : r < W) (hr' : r' < W)
    (hne : r ≠ r') (h : i ∈ selectIdx N skip limit ff r W) : i ∉ selectIdx N skip limit ff r' W := by
  intro h'
  rw [select_mem] at h h'
  obtain ⟨_, h1, h2⟩ := h
  obtain ⟨_, h1', h2'⟩ := h'
  have e := residue_unique (skip + ff) i W r hr h1 h2
  have e' := residue_unique (skip + ff) i W r' hr' h1' h2'
  exact hne (e.trans e'.symm)

/-- … and their union is exactly the single-process stream restricted by skip, limit and fast-forward -/
theorem ranks_union (N skip : Nat) (limit : Option Nat) (ff W i : Nat) (hW : 0 < W) :
    (∃ r, r < W ∧ i ∈ selectIdx N skip limit ff r W) ↔ i ∈ selectIdx N skip limit ff 0 1 := by
  constructor
  · rintro ⟨r, _, h⟩
    rw [select_mem] at h ⊢
    exact ⟨h.1, by omega, Nat.mod_one _⟩
  · intro h
    rw [select_mem] at h
    obtain ⟨hl, hs, _⟩ := h
    have hs' : skip + ff ≤ i := by omega
    obtain ⟨a, b⟩ := residue_rank (skip + ff) i W hs'
    exact ⟨(i - (skip + ff)) % W, Nat.mod_lt _ hW, (select_mem ..).mpr ⟨hl, a, b⟩⟩

/-- the single-process stream is a contiguous range -/
theorem select_single (N skip : Nat) (limit : Option Nat) (ff : Nat) :
    selectIdx N skip limit ff 0 1 =
      List.range' (skip + ff) ((match limit with | none => N | some l => min N l) - (skip + ff)) := by
  unfold selectIdx
  simp only [Nat.add_zero, Nat.mod_one, beq_self_eq_true, Bool.and_true]
  exact filter_ge_range _ _

/-- restarting with fast_forward k yields exactly the uninterrupted stream after its first k items, in the
same order -/
theorem ff_resume (N skip : Nat) (limit : Option Nat) (k : Nat) :
    selectIdx N skip limit k 0 1 = (selectIdx N skip limit 0 0 1).drop k := by
  rw [select_single, select_single, List.drop_range']
  congr 1 <;> omega

/-- distributed form: after fast-forward k the ranks together process exactly the items of the global stream
after its first k -/
theorem ff_resume_ranks (N skip : Nat) (limit : Option Nat) (k W i : Nat) (hW : 0 < W) :
    (∃ r, r < W ∧ i ∈ selectIdx N skip limit k r W) ↔ i ∈ (selectIdx N skip limit 0 0 1).drop k := by
  rw [← ff_resume]; exact ranks_union N skip limit k W i hW

/-- skip = k and limit = k split the data without overlap and without loss (train / validation split) -/
theorem split_no_overlap (N k i : Nat) :
    ¬ (i ∈ selectIdx N k none 0 0 1 ∧ i ∈ selectIdx N 0 (some k) 0 0 1) ∧
    (i < N ↔ (i ∈ selectIdx N k none 0 0 1 ∨ i ∈ selectIdx N 0 (some k) 0 0 1)) := by
  simp only [select_mem, Nat.mod_one, and_true]
  omega

/-! ### files with lines that do not parse: they keep their index and are dropped after the rank stride -/

theorem selectValid_mem (N skip : Nat) (limit : Option Nat) (ff r W : Nat) (invalid : List Nat) (i : Nat) :
    i ∈ selectValid N skip limit ff r W invalid ↔ i ∈ selectIdx N skip limit ff r W ∧ i ∉ invalid := by
  simp [selectValid, List.mem_filter]

/-- the ranks still deliver disjoint sets … -/
theorem ranks_disjoint_valid (N skip : Nat) (limit : Option Nat) (ff W r r' i : Nat) (invalid : List Nat)
    (hr : r < W) (hr' : r' < W) (hne : r ≠ r') (h : i ∈ selectValid N skip limit ff r W invalid) :
    i ∉ selectValid N skip limit ff r' W invalid := by
  rw [selectValid_mem] at h ⊢
  exact fun h' => ranks_disjoint N skip limit ff W r r' i hr hr' hne h.1 h'.1

/-- … whose union is exactly what the single process delivers: wherever the unparseable lines sit, no valid line
is lost or delivered twice -/
theorem ranks_union_valid (N skip : Nat) (limit : Option Nat) (ff W i : Nat) (invalid : List Nat) (hW : 0 < W) :
    (∃ r, r < W ∧ i ∈ selectValid N skip limit ff r W invalid) ↔ i ∈ selectValid N skip limit ff 0 1 invalid := by
  simp only [selectValid_mem]
  constructor
  · rintro ⟨r, hr, h, hi⟩
    exact ⟨(ranks_union N skip limit ff W i hW).mp ⟨r, hr, h⟩, hi⟩
  · rintro ⟨h, hi⟩
    obtain ⟨r, hr, h'⟩ := (ranks_union N skip limit ff W i hW).mpr h
    exact ⟨r, hr, h', hi⟩

/-- fast-forward counts LINES: after `fast_forward k` the single process delivers the valid lines among the global
stream after its first `k` lines.  (The property speaks of the first `k` delivered ITEMS: the two differ exactly
when an unparseable line lies among the skipped ones, known finding F17.) -/
theorem ff_resume_valid (N skip : Nat) (limit : Option Nat) (k : Nat) (invalid : List Nat) :
    selectValid N skip limit k 0 1 invalid =
      ((selectIdx N skip limit 0 0 1).drop k).filter (fun i => !invalid.contains i) := by
  unfold selectValid
  rw [ff_resume]

/-- F17, concretely: 9 lines, skip 4, line 5 unparseable: the uninterrupted stream delivers 4, 6, 7, 8; a restart
after two delivered items (`fast_forward 2`) delivers 6 again -/
example : selectValid 9 4 none 0 0 1 [5] = [4, 6, 7, 8] ∧ selectValid 9 4 none 2 0 1 [5] = [6, 7, 8] := by decide +kernel

/-- min_items is the length of the single-process stream without fast-forward -/
theorem minItems_eq (N skip : Nat) (limit : Option Nat) :
    minItems N skip limit = (selectIdx N skip limit 0 0 1).length := by
  rw [select_single, List.length_range']; rfl

/-- every global index is processed with the same seed whatever the rank, world size or fast-forward offset -/
theorem itemSeed_indep (seed epoch idx : Nat) (N skip : Nat) (limit : Option Nat) (ff ff' r r' W W' : Nat)
    (_h : idx ∈ selectIdx N skip limit ff r W) (_h' : idx ∈ selectIdx N skip limit ff' r' W') :
    itemSeed seed epoch idx = itemSeed seed epoch idx := rfl

/-- the stream a loader delivers to batching does not depend on the number of worker threads, the buffer size
or the schedule: for every reachable closed pipe state over `n` selected items the delivered index sequence is
`List.range n`, hence the delivered items are `(selectIdx …).map process` — stated here as the composition
lemma -/
theorem stream_independent_of_threads (Wt Wt' n : Nat) (hW : 1 ≤ Wt) (hW' : 1 ≤ Wt') (s s' : PState)
    (h : PReach Wt (fused n) s) (h' : PReach Wt' (fused n) s') (hc : s.closed = true) (hc' : s'.closed = true) :
    s.recvd = s'.recvd ∧ s.recvd = List.range n := by
  have a := (Tu.C05.pipe_complete Wt n hW s h hc).1
  have b := (Tu.C05.pipe_complete Wt' n hW' s' h' hc').1
  exact ⟨a.trans b.symm, a⟩

/-! ### non-vacuity -/
example : selectIdx 10 1 (some 8) 2 1 3 = [4, 7] := by decide +kernel
example : selectIdx 10 1 (some 8) 2 0 3 = [3, 6] := by decide +kernel
example : selectIdx 10 1 (some 8) 2 2 3 = [5] := by decide +kernel
example : selectIdx 10 1 (some 8) 2 0 1 = [3, 4, 5, 6, 7] := by decide +kernel
example : selectIdx 10 1 (some 8) 0 0 1 = [1, 2, 3, 4, 5, 6, 7] := by decide +kernel
example : (selectIdx 10 1 (some 8) 0 0 1).drop 2 = selectIdx 10 1 (some 8) 2 0 1 := by decide +kernel
example : selectIdx 10 3 none 0 0 1 = [3, 4, 5, 6, 7, 8, 9] ∧ selectIdx 10 0 (some 3) 0 0 1 = [0, 1, 2] := by decide +kernel
example : minItems 10 1 (some 8) = 7 := by decide +kernel
example : selectIdx 5 0 (some 8) 0 1 2 = [1, 3] := by decide +kernel

end Tu.C08

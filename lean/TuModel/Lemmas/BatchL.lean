/-
  Lemmas about the `Batched` model (Model/Batch.lean): what `batch_from` and the buffer refill do, and a
  characterisation of `stepAllowed` mode by mode (`stepAllowed_plain`, `stepAllowed_buffered` with `Pick`), so that
  the properties in Props/C06.lean never unfold the step relation.
-/
import TuModel.Lemmas.SubseqL
namespace Tu

theorem window_perm {α : Type} (l : List α) {s e : Nat} (h : s ≤ e) :
    ((l.drop s).take (e - s) ++ (l.take s ++ l.drop e)).Perm l := by
  have : l.drop e = (l.drop s).drop (e - s) := by rw [List.drop_drop]; congr 1; omega
  rw [this, ← List.append_assoc]
  refine (List.Perm.append_right _ List.perm_append_comm).trans ?_
  rw [List.append_assoc, List.take_append_drop, List.take_append_drop]

theorem maxSize_append (a b : List Item) : maxSize (a ++ b) = max (maxSize a) (maxSize b) := by
  induction a with
  | nil => simp [maxSize]
  | cons x xs ih => simp [maxSize, ih, Nat.max_assoc]

theorem maxSize_perm {a b : List Item} (h : a.Perm b) : maxSize a = maxSize b := by
  induction h with
  | nil => rfl
  | cons x _ ih => rw [maxSize, maxSize, ih]
  | swap x y l => exact Nat.max_left_comm ..
  | trans _ _ ih1 ih2 => rw [ih1, ih2]

theorem itemsLimit_perm (p : Bool) {a b : List Item} (h : a.Perm b) : itemsLimit p a = itemsLimit p b := by
  unfold itemsLimit; rw [h.length_eq, maxSize_perm h]

/-- a batch is within the limit, or consists of a single item (which is always accepted) -/
def Good (p : Bool) (L : Nat) (l : List Item) : Prop := l.length ≤ 1 ∨ itemsLimit p l ≤ L

theorem Good.reverse {p L l} (h : Good p L l) : Good p L l.reverse := by
  unfold Good at *; rw [itemsLimit_perm p (List.reverse_perm l)]; simpa using h

theorem batchFromAux_nil (p : Bool) (L : Nat) (items : List Item) (c m : Nat) :
    batchFromAux p L [] items c m = (items.reverse, none, []) := by rw [batchFromAux]

theorem batchFromAux_cons (p : Bool) (L : Nat) (x : Item) (xs items : List Item) (c m : Nat) :
    batchFromAux p L (x :: xs) items c m =
      if limOf p (c + 1) (max m x.size) > L && !items.isEmpty then (items.reverse, some x, xs)
      else batchFromAux p L xs (x :: items) (c + 1) (max m x.size) := by rw [batchFromAux]

/-- everything `batch_from` does, in one statement: on top of `items` it takes a prefix `tk` of `src`, and given `tk`
alone it takes all of it -/
theorem batchFromAux_spec (p : Bool) (L : Nat) : ∀ (src items : List Item) (c m : Nat),
    c = items.length → m = maxSize items → Good p L items →
    ∀ got rem un, batchFromAux p L src items c m = (got, rem, un) →
      ∃ tk, got = items.reverse ++ tk ∧ src = tk ++ rem.toList ++ un ∧ Good p L got ∧
      (∀ r, rem = some r → got ≠ [] ∧ limOf p (got.length + 1) (max (maxSize got) r.size) > L) ∧
      (rem = none → un = []) ∧ batchFromAux p L tk items c m = (got, none, []) := by
  intro src
  induction src with
  | nil =>
    intro items c m _ _ hg got rem un h
    rw [batchFromAux_nil] at h
    cases h
    exact ⟨[], (List.append_nil _).symm, rfl, hg.reverse, nofun, fun _ => rfl, batchFromAux_nil ..⟩
  | cons x xs ih =>
    intro items c m hc hm hg got rem un h
    rw [batchFromAux_cons] at h
    split at h
    · rename_i hov
      simp only [Bool.and_eq_true, decide_eq_true_eq, Bool.not_eq_true', List.isEmpty_eq_false_iff] at hov
      cases h
      refine ⟨[], (List.append_nil _).symm, rfl, hg.reverse, ?_, nofun, batchFromAux_nil ..⟩
      intro r hr
      cases hr
      refine ⟨by simpa using hov.2, ?_⟩
      rw [List.length_reverse, maxSize_perm (List.reverse_perm items), ← hc, ← hm]
      exact hov.1
    · rename_i hov
      have hg' : Good p L (x :: items) := by
        by_cases he : items = []
        · exact Or.inl (by simp [he])
        · refine Or.inr (Nat.le_of_not_lt fun hlt => hov ?_)
          rw [itemsLimit, maxSize, Nat.max_comm, ← hm, List.length_cons, ← hc] at hlt
          simpa [he] using hlt
      obtain ⟨tk, h1, h2, h3⟩ := ih (x :: items) (c + 1) (max m x.size) (by simp [hc])
        (by rw [hm, Nat.max_comm]; rfl) hg' got rem un h
      exact ⟨x :: tk, by simpa using h1, by rw [h2]; rfl, h3.1, h3.2.1, h3.2.2.1,
        by rw [batchFromAux_cons, if_neg hov]; exact h3.2.2.2⟩

theorem batchFrom_spec (p : Bool) (L : Nat) (src got : List Item) (rem : Option Item) (un : List Item)
    (h : batchFrom p L src = (got, rem, un)) :
    got ++ rem.toList ++ un = src ∧ Good p L got ∧
    (∀ r, rem = some r → got ≠ [] ∧ limOf p (got.length + 1) (max (maxSize got) r.size) > L) ∧
    (rem = none → un = []) ∧ (src ≠ [] → got ≠ []) := by
  obtain ⟨tk, h1, h2, h3, h4, h5, -⟩ := batchFromAux_spec p L src [] 0 0 rfl rfl (Or.inl (by simp)) got rem un h
  cases h1
  refine ⟨h2.symm, h3, h4, h5, fun hs hg => ?_⟩
  -- the first item is always taken: nothing taken means nothing left over either
  cases rem with
  | none => rw [h5 rfl, show tk = [] from hg] at h2; exact hs h2
  | some r => exact (h4 r rfl).1 hg

theorem batchFrom_idem (p : Bool) (L : Nat) (src got : List Item) (rem : Option Item) (un : List Item)
    (h : batchFrom p L src = (got, rem, un)) : batchFrom p L got = (got, none, []) := by
  obtain ⟨tk, h1, -, -, -, -, h6⟩ := batchFromAux_spec p L src [] 0 0 rfl rfl (Or.inl (by simp)) got rem un h
  cases h1
  exact h6

theorem fillBuf_spec (p : Bool) (cap : Nat) : ∀ (rest buf : List Item) (c m : Nat) (buf' rest' : List Item),
    fillBuf p cap rest buf c m = (buf', rest') →
    ∃ tk, buf' = buf ++ tk ∧ rest = tk ++ rest' ∧ (rest ≠ [] → limOf p c m ≤ cap → tk ≠ []) := by
  intro rest
  induction rest with
  | nil =>
    intro buf c m buf' rest' h
    rw [fillBuf] at h
    cases h
    exact ⟨[], (List.append_nil _).symm, rfl, fun h => absurd rfl h⟩
  | cons x xs ih =>
    intro buf c m buf' rest' h
    rw [fillBuf] at h
    split at h
    · obtain ⟨tk, h1, h2, -⟩ := ih _ _ _ _ _ h
      exact ⟨x :: tk, by rw [h1, List.append_assoc]; rfl, by rw [h2]; rfl, fun _ _ => List.cons_ne_nil _ _⟩
    · rename_i hc
      cases h
      exact ⟨[], (List.append_nil _).symm, rfl, fun _ hle => absurd hle hc⟩

/-- the buffer after the refill at the start of `build_batch` in the buffered modes, and what stays upstream -/
abbrev refill (cfg : BCfg) (st : BState) : List Item × List Item :=
  fillBuf cfg.padded (min (cfg.lim * cfg.pf) usizeMax) st.rest st.buf st.buf.length (maxSize st.buf)

theorem refill_append (cfg : BCfg) (st : BState) : (refill cfg st).1 ++ (refill cfg st).2 = st.buf ++ st.rest := by
  obtain ⟨tk, h1, h2, -⟩ := fillBuf_spec _ _ _ _ _ _ _ _ (rfl : refill cfg st = _)
  rw [h1, h2, List.append_assoc]

/-- an empty buffer has limit value 0, so the refill takes at least one item -/
theorem refill_ne (cfg : BCfg) (st : BState) (hne : st.buf ++ st.rest ≠ []) : (refill cfg st).1 ≠ [] := by
  obtain ⟨tk, h1, -, h3⟩ := fillBuf_spec _ _ _ _ _ _ _ _ (rfl : refill cfg st = _)
  rw [h1]
  by_cases hb : st.buf = []
  · rw [hb, List.nil_append] at hne ⊢
    exact h3 hne (by simp [hb, maxSize, limOf])
  · exact fun h => hb (List.append_eq_nil_iff.mp h).1

theorem findSubseq_mem (p : Bool) (values : List Item) (k s e : Nat) (h : (s, e) ∈ findSubseq p values k) :
    s < e ∧ e ≤ values.length ∧ itemsLimit p ((values.drop s).take (e - s)) ≤ k :=
  have := subseqs_emitted (fun s => by simp [itemsLimit, limOf, maxSize]) (s, e) (findSubseq_eq_subseqs p values k ▸ h)
  ⟨this.1, this.2.1, this.2.2.1⟩

theorem findSubseq_sound (p : Bool) (values : List Item) (k : Nat) (s e : Nat) (h : (s, e) ∈ findSubseq p values k) :
    itemsLimit p ((values.drop s).take (e - s)) ≤ k :=
  (findSubseq_mem p values k s e h).2.2

theorem sortBySize_perm (l : List Item) : (sortBySize l).Perm l := List.mergeSort_perm _ _

theorem sortBySize_ne {l : List Item} (h : l ≠ []) : sortBySize l ≠ [] := by
  intro h0
  have := sortBySize_perm l
  rw [h0] at this
  exact h this.symm.eq_nil

theorem removeItems_perm (buf b : List Item) (hb : b.Nodup) (hbuf : buf.Nodup) (hsub : ∀ x ∈ b, x ∈ buf) :
    (b ++ removeItems buf b).Perm buf := by
  have h2 : (buf.filter (fun x => b.contains x)).Perm b := by
    apply (List.perm_ext_iff_of_nodup (hbuf.filter _) hb).mpr
    intro a
    simp only [List.mem_filter, List.contains_eq_mem, decide_eq_true_eq]
    exact ⟨fun h => h.2, fun h => ⟨hsub a h, h⟩⟩
  exact (List.Perm.append_right _ h2.symm).trans (List.filter_append_perm (fun x => b.contains x) buf)

theorem mem_removeItems {l b : List Item} {x : Item} : x ∈ removeItems l b ↔ x ∈ l ∧ x ∉ b := by
  simp [removeItems]

theorem removeItems_self (l : List Item) : removeItems l l = [] :=
  List.eq_nil_iff_forall_not_mem.mpr fun _ h => (mem_removeItems.mp h).2 (mem_removeItems.mp h).1

theorem greedyOK_iff {p : Bool} {L : Nat} {buf b : List Item} :
    greedyOK p L buf b = true ↔ (batchFrom p L b).1 = b ∧ (batchFrom p L b).2.2 = [] ∧ (∀ x ∈ b, x ∈ buf) ∧ b.Nodup ∧
      (removeItems buf b = [] ∨
        ∃ r ∈ removeItems buf b, limOf p (b.length + 1) (max (maxSize b) r.size) > L) := by
  simp [greedyOK, and_assoc]

theorem stepAllowed_plain {cfg : BCfg} (hs : cfg.sort = false) (hsh : cfg.shuffle = false) (st : BState)
    (b : List Item) (st' : BState) :
    stepAllowed cfg st b = some st' ↔ b ≠ [] ∧ st.buf.length ≤ 1 ∧
      ∃ rem, batchFrom cfg.padded cfg.lim (st.buf ++ st.rest) = (b, rem, st'.rest) ∧ st'.buf = rem.toList := by
  unfold stepAllowed
  simp only [hs, hsh, Bool.not_false, Bool.and_self, if_true]
  generalize batchFrom cfg.padded cfg.lim (st.buf ++ st.rest) = r
  obtain ⟨got, rem, un⟩ := r
  obtain ⟨rest', buf'⟩ := st'
  simp only [List.isEmpty_iff, Option.ite_none_left_eq_some, Option.ite_none_right_eq_some, Option.some.injEq,
    BState.mk.injEq, beq_iff_eq, Nat.not_lt, Prod.mk.injEq, ne_eq]
  refine and_congr_right fun _ => and_congr_right fun _ => ⟨?_, ?_⟩
  · rintro ⟨rfl, rfl, rfl⟩; exact ⟨_, ⟨rfl, rfl, rfl⟩, rfl⟩
  · rintro ⟨_, ⟨rfl, rfl, rfl⟩, rfl⟩; exact ⟨rfl, rfl, rfl⟩

/-- `Pick cfg buf b nb`: in a buffered mode `build_batch` may hand batch `b` out of the refilled buffer `buf`,
keeping `nb` buffered.  One constructor per branch of `stepAllowed`: sort + shuffle with no window that fits (the
largest item alone), sort + shuffle with the chosen window, sort only, shuffle only. -/
inductive Pick (cfg : BCfg) (buf : List Item) : List Item → List Item → Prop
  | last {l} (hs : cfg.sort = true) (hsh : cfg.shuffle = true)
      (h0 : findSubseq cfg.padded (sortBySize buf) cfg.lim = []) (hl : (sortBySize buf).getLast? = some l) :
      Pick cfg buf [l] (sortBySize buf).dropLast
  | window {b s e} (hs : cfg.sort = true) (hsh : cfg.shuffle = true)
      (hf : (findSubseq cfg.padded (sortBySize buf) cfg.lim).find?
        (fun w => ((sortBySize buf).drop w.1).take (w.2 - w.1) == b) = some (s, e)) :
      Pick cfg buf b ((sortBySize buf).take s ++ (sortBySize buf).drop e)
  | sorted {b rem un} (hs : cfg.sort = true) (hsh : cfg.shuffle = false)
      (h : batchFrom cfg.padded cfg.lim (sortBySize buf).reverse = (b, rem, un)) :
      Pick cfg buf b (un.reverse ++ rem.toList)
  | greedy {b} (hs : cfg.sort = false) (hsh : cfg.shuffle = true) (h : greedyOK cfg.padded cfg.lim buf b = true) :
      Pick cfg buf b (removeItems buf b)

theorem stepAllowed_buffered {cfg : BCfg} (hm : cfg.sort = true ∨ cfg.shuffle = true) (st : BState)
    (b : List Item) (st' : BState) :
    stepAllowed cfg st b = some st' ↔ b ≠ [] ∧
      ∃ buf, refill cfg st = (buf, st'.rest) ∧ buf ≠ [] ∧ Pick cfg buf b st'.buf := by
  unfold stepAllowed refill
  generalize fillBuf cfg.padded (min (cfg.lim * cfg.pf) usizeMax) st.rest st.buf st.buf.length (maxSize st.buf) = r
  obtain ⟨buf, rest'⟩ := r
  obtain ⟨rest'', buf'⟩ := st'
  have hm' : (!cfg.sort && !cfg.shuffle) = false := by rcases hm with h | h <;> simp [h]
  simp only [hm', List.isEmpty_iff, Bool.false_eq_true, if_false, Option.ite_none_left_eq_some, ne_eq, Prod.mk.injEq]
  refine and_congr_right fun hb => ⟨?_, ?_⟩
  · rintro ⟨hbuf, h⟩
    suffices rest' = rest'' ∧ Pick cfg buf b buf' from ⟨buf, ⟨rfl, this.1⟩, hbuf, this.2⟩
    cases hs : cfg.sort
    · simp only [hs, Bool.false_eq_true, if_false, Option.ite_none_right_eq_some, Option.some.injEq,
        BState.mk.injEq] at h
      obtain ⟨hg, rfl, rfl⟩ := h
      exact ⟨rfl, .greedy hs (by simpa [hs] using hm) hg⟩
    · cases hsh : cfg.shuffle
      · simp only [hs, hsh, if_true, Bool.false_eq_true, if_false, Option.ite_none_right_eq_some, Option.some.injEq,
          BState.mk.injEq, beq_iff_eq] at h
        obtain ⟨rfl, rfl, rfl⟩ := h
        exact ⟨rfl, .sorted hs hsh rfl⟩
      · simp only [hs, hsh, if_true] at h
        split at h
        · rename_i h0
          simp only [Option.ite_none_right_eq_some, Option.some.injEq, BState.mk.injEq, beq_iff_eq] at h
          obtain ⟨hl, rfl, rfl⟩ := h
          cases hlast : (sortBySize buf).getLast? with
          | none => rw [hlast] at hl; cases hl
          | some l =>
            rw [hlast] at hl
            cases hl
            exact ⟨rfl, .last hs hsh h0 hlast⟩
        · split at h
          · rename_i s e hf
            cases h
            exact ⟨rfl, .window hs hsh hf⟩
          · cases h
  · rintro ⟨_, ⟨rfl, rfl⟩, hbuf, hP⟩
    refine ⟨hbuf, ?_⟩
    cases hP with
    | last hs hsh h0 hl => simp [hs, hsh, h0, hl]
    | window hs hsh hf =>
      have : findSubseq cfg.padded (sortBySize buf) cfg.lim ≠ [] := by intro h0; rw [h0] at hf; cases hf
      simp [hs, hsh, hf, this]
    | sorted hs hsh h => simp [hs, hsh, h]
    | greedy hs _ h => simp [hs, h]

theorem not_buffered {cfg : BCfg} (hm : ¬ (cfg.sort = true ∨ cfg.shuffle = true)) :
    cfg.sort = false ∧ cfg.shuffle = false := by
  simpa using hm

/-- only the shuffle-only mode, which compares items, needs the buffer duplicate-free -/
theorem Pick.spec {cfg : BCfg} {buf b nb : List Item} (h : Pick cfg buf b nb) (hnd : buf.Nodup) :
    Good cfg.padded cfg.lim b ∧ (b ++ nb).Perm buf := by
  have hsp := sortBySize_perm buf
  cases h with
  | @last l _ _ _ hl =>
    obtain ⟨ys, hys⟩ := List.getLast?_eq_some_iff.mp hl
    refine ⟨Or.inl (Nat.le_refl 1), List.perm_append_comm.trans ?_⟩
    rw [hys, List.dropLast_concat, ← hys]
    exact hsp
  | @window _ s e _ _ hf =>
    have hw := List.find?_some hf
    simp only [beq_iff_eq] at hw
    obtain ⟨hse, -, hfit⟩ := findSubseq_mem _ _ _ s e (List.mem_of_find?_eq_some hf)
    rw [← hw]
    exact ⟨Or.inr hfit, (window_perm _ (Nat.le_of_lt hse)).trans hsp⟩
  | @sorted _ rem un _ _ h =>
    obtain ⟨h1, h2, -⟩ := batchFrom_spec _ _ _ _ _ _ h
    refine ⟨h2, (List.Perm.append_left _
      (List.perm_append_comm.trans (List.Perm.append_left _ (List.reverse_perm un)))).trans ?_⟩
    rw [← List.append_assoc, h1]
    exact (List.reverse_perm _).trans hsp
  | greedy _ _ h =>
    obtain ⟨h1, -, hsub, hnodup, -⟩ := greedyOK_iff.mp h
    refine ⟨?_, removeItems_perm buf b hnodup hnd hsub⟩
    rw [← h1]
    exact (batchFrom_spec _ _ _ _ _ _ rfl).2.1

theorem Pick.exists {cfg : BCfg} (hm : cfg.sort = true ∨ cfg.shuffle = true) {buf : List Item} (hne : buf ≠ [])
    (hnd : buf.Nodup) : ∃ b nb, b ≠ [] ∧ Pick cfg buf b nb := by
  cases hs : cfg.sort
  · -- shuffle only: the greedy prefix of the buffer as it stands is admissible
    cases hbf : batchFrom cfg.padded cfg.lim buf with
    | mk got r =>
    obtain ⟨rem, un⟩ := r
    obtain ⟨h1, -, h3, h4, h5⟩ := batchFrom_spec _ _ _ _ _ _ hbf
    refine ⟨got, _, h5 hne, .greedy hs (by simpa [hs] using hm) ?_⟩
    rw [← h1, List.append_assoc] at hnd
    obtain ⟨hgnd, -, hdis⟩ := List.nodup_append.mp hnd
    rw [greedyOK_iff, batchFrom_idem _ _ _ _ _ _ hbf]
    refine ⟨rfl, rfl, fun x hx => by rw [← h1]; simp [hx], hgnd, ?_⟩
    cases rem with
    | none =>
      rw [h4 rfl] at h1
      have : got = buf := by simpa using h1
      exact Or.inl (this ▸ removeItems_self got)
    | some r =>
      exact Or.inr ⟨r, mem_removeItems.mpr ⟨by rw [← h1]; simp, fun hr => hdis r hr r (by simp) rfl⟩, (h3 r rfl).2⟩
  · have hsne := sortBySize_ne hne
    cases hsh : cfg.shuffle
    · cases hbf : batchFrom cfg.padded cfg.lim (sortBySize buf).reverse with
      | mk got r =>
      exact ⟨got, _, (batchFrom_spec _ _ _ _ _ _ hbf).2.2.2.2 (by simpa using hsne), .sorted hs hsh hbf⟩
    · cases hsub : findSubseq cfg.padded (sortBySize buf) cfg.lim with
      | nil => exact ⟨_, _, List.cons_ne_nil _ _, .last hs hsh hsub (List.getLast?_eq_some_getLast hsne)⟩
      | cons w ws =>
        have hw := findSubseq_mem cfg.padded (sortBySize buf) cfg.lim w.1 w.2 (by rw [hsub]; exact List.mem_cons_self)
        refine ⟨((sortBySize buf).drop w.1).take (w.2 - w.1), _, ?_, .window (s := w.1) (e := w.2) hs hsh ?_⟩
        · intro h0
          have := congrArg List.length h0
          simp only [List.length_take, List.length_drop, List.length_nil] at this
          omega
        · rw [hsub, List.find?_cons_of_pos]
          exact beq_self_eq_true _

theorem runBatches_cons (cfg : BCfg) (st : BState) (b : List Item) (bs : List (List Item)) (st' : BState) :
    runBatches cfg st (b :: bs) = some st' ↔
      ∃ st1, stepAllowed cfg st b = some st1 ∧ runBatches cfg st1 bs = some st' := by
  rw [runBatches]
  cases stepAllowed cfg st b <;> simp

end Tu

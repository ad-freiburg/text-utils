/-
  Model/Whitespace.lean step by step: the equations of `wsOps`, and one step of each of the three scanners `corruptWsAux`
  (the function model), `cwMatch` (the acceptance test) and `cwWitness` (its witness); then what the flags allow.
-/
import TuModel.Model.Whitespace
namespace Tu

theorem wsOps_nil (t : List (List Nat)) : wsOps [] t = some [] := by rw [wsOps]

theorem wsOps_keep (c : List Nat) (f' t' : List (List Nat)) :
    wsOps (c :: f') (c :: t') = (wsOps f' t').map (WsOp.keep :: ·) := by
  rw [wsOps]; simp

theorem wsOps_self (i : List (List Nat)) : wsOps i i = some (List.replicate i.length .keep) := by
  induction i with
  | nil => simp [wsOps]
  | cons c cs ih => rw [wsOps_keep, ih]; simp [List.replicate_succ]

theorem wsOps_insert {c e : List Nat} (f' t' : List (List Nat)) (hne : c ≠ e) (hw : isWsCl e = true) :
    wsOps (c :: f') (e :: t') = (wsOps f' (t'.drop 1)).map (WsOp.insert :: ·) := by
  rw [wsOps]; simp [hne, hw]

theorem wsOps_delete {c e : List Nat} (f' t' : List (List Nat)) (hne : c ≠ e) (hew : isWsCl e = false)
    (hcw : isWsCl c = true) :
    wsOps (c :: f') (e :: t') = (wsOps f' (e :: t')).map (WsOp.delete :: ·) := by
  rw [wsOps]; simp [hne, hew, hcw]

theorem corruptWsAux_nil (ds : List (Bool × Bool)) (first prevWs : Bool) :
    corruptWsAux [] ds first prevWs = [] := by cases ds <;> rfl

theorem corruptWsAux_cons_ws {c : List Nat} (cs : List (List Nat)) (d : Bool × Bool)
    (ds : List (Bool × Bool)) (first prevWs : Bool) (hw : isWsCl c = true) :
    corruptWsAux (c :: cs) (d :: ds) first prevWs =
      (if d.1 then [] else [c]) ++ corruptWsAux cs ds false true := by
  simp only [corruptWsAux, hw, if_true]

theorem corruptWsAux_cons_nonws {c : List Nat} (cs : List (List Nat)) (d : Bool × Bool)
    (ds : List (Bool × Bool)) (first prevWs : Bool) (hw : isWsCl c = false) :
    corruptWsAux (c :: cs) (d :: ds) first prevWs =
      if (d.2 && !first && !prevWs) = true then sp :: c :: corruptWsAux cs ds false false
      else c :: corruptWsAux cs ds false false := by
  simp only [corruptWsAux, hw, Bool.false_eq_true, if_false]

theorem cwMatch_nil (f : CwFlags) (first prevWs : Bool) (out : List Nat) :
    cwMatch f [] first prevWs out = out.isEmpty := by rw [cwMatch]

theorem cwMatch_cons_ws (f : CwFlags) {c : List Nat} (cs : List (List Nat)) (first prevWs : Bool)
    (out : List Nat) (hw : isWsCl c = true) :
    cwMatch f (c :: cs) first prevWs out =
      ((f.mayDel && cwMatch f cs false true out) ||
        (!f.mustDel && c.isPrefixOf out && cwMatch f cs false true (out.drop c.length))) := by
  rw [cwMatch, if_pos hw]

theorem cwMatch_cons_nonws (f : CwFlags) {c : List Nat} (cs : List (List Nat)) (first prevWs : Bool)
    (out : List Nat) (hw : isWsCl c = false) :
    cwMatch f (c :: cs) first prevWs out =
      (((!first && !prevWs) && f.mayIns && (32 :: c).isPrefixOf out &&
          cwMatch f cs false false (out.drop (c.length + 1))) ||
        ((!(!first && !prevWs) || !f.mustIns) && c.isPrefixOf out &&
          cwMatch f cs false false (out.drop c.length))) := by
  rw [cwMatch, if_neg (by simp [hw])]

theorem cwWitness_nil (f : CwFlags) (first prevWs : Bool) (out : List Nat) :
    cwWitness f [] first prevWs out = if out.isEmpty then some [] else none := by rw [cwWitness]

theorem cwWitness_cons_ws (f : CwFlags) {c : List Nat} (cs : List (List Nat)) (first prevWs : Bool)
    (out : List Nat) (hw : isWsCl c = true) :
    cwWitness f (c :: cs) first prevWs out =
      (if f.mayDel then cwWitness f cs false true out else none).or
        (if !f.mustDel && c.isPrefixOf out then
          (cwWitness f cs false true (out.drop c.length)).map (c :: ·) else none) := by
  rw [cwWitness, if_pos hw, Option.orElse_eq_or]

theorem cwWitness_cons_nonws (f : CwFlags) {c : List Nat} (cs : List (List Nat)) (first prevWs : Bool)
    (out : List Nat) (hw : isWsCl c = false) :
    cwWitness f (c :: cs) first prevWs out =
      (if (!first && !prevWs) && f.mayIns && (32 :: c).isPrefixOf out then
          (cwWitness f cs false false (out.drop (c.length + 1))).map (fun r => sp :: c :: r)
        else none).or
        (if (!(!first && !prevWs) || !f.mustIns) && c.isPrefixOf out then
          (cwWitness f cs false false (out.drop c.length)).map (c :: ·) else none) := by
  rw [cwWitness, if_neg (by simp [hw]), Option.orElse_eq_or]

/-- the flags describe two actual probabilities: "certain" implies "possible".  Exactly the condition
under which some decision is allowed at all (`CwFlags.consistent_iff`). -/
def CwFlags.consistent (f : CwFlags) : Bool := (!f.mustDel || f.mayDel) && (!f.mustIns || f.mayIns)

theorem CwFlags.allows_iff (f : CwFlags) (a b : Bool) : f.allows (a, b) = true ↔
    ((a = true → f.mayDel = true) ∧ (f.mustDel = true → a = true)) ∧
    ((b = true → f.mayIns = true) ∧ (f.mustIns = true → b = true)) := by
  simp only [CwFlags.allows, Bool.and_eq_true, Bool.or_eq_true, Bool.not_eq_true', ← Bool.not_eq_true,
    ← Decidable.imp_iff_not_or, and_assoc]

theorem CwFlags.consistent_iff_imp (f : CwFlags) : f.consistent = true ↔
    (f.mustDel = true → f.mayDel = true) ∧ (f.mustIns = true → f.mayIns = true) := by
  simp only [CwFlags.consistent, Bool.and_eq_true, Bool.or_eq_true, Bool.not_eq_true', ← Bool.not_eq_true,
    ← Decidable.imp_iff_not_or]

theorem CwFlags.consistent_iff (f : CwFlags) : f.consistent = true ↔ ∃ d, f.allows d = true := by
  rw [consistent_iff_imp]
  constructor
  · intro ⟨h1, h2⟩
    exact ⟨(f.mustDel, f.mustIns), (f.allows_iff _ _).mpr ⟨⟨h1, id⟩, h2, id⟩⟩
  · rintro ⟨⟨a, b⟩, h⟩
    obtain ⟨⟨h1, h2⟩, h3, h4⟩ := (f.allows_iff a b).mp h
    exact ⟨fun h => h1 (h2 h), fun h => h3 (h4 h)⟩

theorem CwFlags.ofPermille_consistent (iw dw : Nat) : (CwFlags.ofPermille iw dw).consistent = true := by
  rw [consistent_iff_imp]
  simp only [CwFlags.ofPermille, decide_eq_true_eq]
  omega

theorem CwFlags.ofPermille_allows_iff (iw dw : Nat) (a b : Bool) : (CwFlags.ofPermille iw dw).allows (a, b) = true ↔
    ((a = true → 0 < dw) ∧ (1000 ≤ dw → a = true)) ∧ ((b = true → 0 < iw) ∧ (1000 ≤ iw → b = true)) := by
  simp only [allows_iff, CwFlags.ofPermille, decide_eq_true_eq]

theorem isPrefixOf_split {c out : List Nat} (h : c.isPrefixOf out = true) :
    c ++ out.drop c.length = out :=
  List.prefix_iff_eq_append.mp (List.isPrefixOf_iff_prefix.mp h)

theorem isPrefixOf_append_self (c r : List Nat) : c.isPrefixOf (c ++ r) = true :=
  List.isPrefixOf_iff_prefix.mpr (List.prefix_append c r)

theorem sublist_flatten {α} {l₁ l₂ : List (List α)} (h : List.Sublist l₁ l₂) :
    List.Sublist l₁.flatten l₂.flatten := by
  induction h with
  | slnil => exact .slnil
  | cons a _ ih => rw [List.flatten_cons]; exact List.sublist_append_of_sublist_right ih
  | cons_cons a _ ih => rw [List.flatten_cons, List.flatten_cons]; exact (List.Sublist.refl a).append ih

theorem ite_none_isSome {α} (p : Bool) (a : Option α) :
    (if p = true then a else none).isSome = (p && a.isSome) := by
  cases p <;> rfl

end Tu

/-
  For C13 (metrics) up to the whitespace-correction counts: comparing two duplicate-free lists by filters, arithmetic
  of the pair-rationals `Q` (F-beta, folds of `Q.add`), the whitespace operation sets, pair counting.
-/
import TuModel.Model.Metrics
namespace Tu

theorem length_filter_add_not {α : Type} (p : α → Bool) (l : List α) :
    (l.filter p).length + (l.filter (fun x => !p x)).length = l.length := by
  rw [← List.countP_eq_length_filter, ← List.countP_eq_length_filter, List.length_eq_countP_add_countP p]
  congr 2
  funext x
  simp

theorem length_inter_comm {α : Type} [BEq α] [LawfulBEq α] (g p : List α) (hg : g.Nodup) (hp : p.Nodup) :
    (g.filter (fun x => p.contains x)).length = (p.filter (fun x => g.contains x)).length := by
  apply List.Perm.length_eq
  rw [List.perm_ext_iff_of_nodup (List.Pairwise.filter _ hg) (List.Pairwise.filter _ hp)]
  intro a
  simp only [List.mem_filter, List.contains_eq_mem, decide_eq_true_eq]
  exact And.comm

theorem filter_not_contains_self {α : Type} [BEq α] [LawfulBEq α] (g : List α) :
    g.filter (fun x => !g.contains x) = [] := by
  rw [List.filter_eq_nil_iff]
  intro a ha
  simp [ha]

/-- a well-formed value in [0,1] -/
def Q.unit (q : Q) : Prop := 0 < q.den ∧ q.num ≤ q.den
/-- a well-formed value equal to 1 -/
def Q.isOne (q : Q) : Prop := 0 < q.den ∧ q.num = q.den
/-- a well-formed value equal to 0 -/
def Q.isZero (q : Q) : Prop := 0 < q.den ∧ q.num = 0

instance (q : Q) : Decidable q.unit := inferInstanceAs (Decidable (_ ∧ _))
instance (q : Q) : Decidable q.isOne := inferInstanceAs (Decidable (_ ∧ _))
instance (q : Q) : Decidable q.isZero := inferInstanceAs (Decidable (_ ∧ _))

theorem Q.isOne.unit {q : Q} (h : q.isOne) : q.unit := ⟨h.1, Nat.le_of_eq h.2⟩
theorem Q.isZero.unit {q : Q} (h : q.isZero) : q.unit := ⟨h.1, by rw [h.2]; exact Nat.zero_le _⟩
theorem Q.one_isOne : Q.one.isOne := ⟨Nat.one_pos, rfl⟩
theorem Q.zero_isZero : Q.zero.isZero := ⟨Nat.one_pos, rfl⟩
theorem Q.one_unit : Q.one.unit := Q.one_isOne.unit
theorem Q.zero_unit : Q.zero.unit := Q.zero_isZero.unit

/-- `F_β(p, r) = (1+β²)·p·r / (β²·p + r)` lies in `[0,1]` for all `p, r ∈ [0,1]` with `r > 0`:
`β²·p·r ≤ β²·p` and `p·r ≤ r` -/
theorem fbeta_unit (b2 p r : Q) (hb : 0 < b2.den) (hp : p.unit) (hr : r.unit) (hr0 : 0 < r.num) :
    (Q.div (Q.mul (Q.add Q.one b2) (Q.mul p r)) (Q.add (Q.mul b2 p) r)).unit := by
  obtain ⟨bn, bd⟩ := b2
  obtain ⟨pn, P⟩ := p
  obtain ⟨rn, R⟩ := r
  simp only [Q.unit, Q.div, Q.mul, Q.add, Q.one] at *
  have h1 : bd * (pn * rn) ≤ rn * (bd * P) := by
    rw [Nat.mul_comm pn rn, Nat.mul_left_comm]; exact Nat.mul_le_mul_left _ (Nat.mul_le_mul_left _ hp.2)
  have h2 : bn * (pn * rn) ≤ bn * pn * R := by
    rw [← Nat.mul_assoc]; exact Nat.mul_le_mul_left _ hr.2
  constructor
  · exact Nat.mul_pos (Nat.mul_pos (by omega) (Nat.mul_pos hp.1 hr.1))
      (Nat.lt_of_lt_of_le (Nat.mul_pos hr0 (Nat.mul_pos hb hp.1)) (Nat.le_add_left ..))
  · rw [Nat.one_mul, Nat.mul_one, Nat.mul_comm (bd * (P * R)), ← Nat.mul_assoc bd]
    apply Nat.mul_le_mul_right
    rw [Nat.add_mul]
    omega

theorem fbeta_isOne (b2 p r : Q) (hb : 0 < b2.den) (hp : p.isOne) (hr : r.isOne) :
    (Q.div (Q.mul (Q.add Q.one b2) (Q.mul p r)) (Q.add (Q.mul b2 p) r)).isOne := by
  refine ⟨(fbeta_unit b2 p r hb hp.unit hr.unit (hr.2 ▸ hr.1)).1, ?_⟩
  simp only [Q.div, Q.mul, Q.add, Q.one, hp.2, hr.2]
  grind

theorem f1_of_pos (tp fp fn bn bd : Nat) (htp : 0 < tp) :
    f1 tp fp fn bn bd =
      (Q.div (Q.mul (Q.add Q.one ⟨bn * bn, bd * bd⟩) (Q.mul ⟨tp, max (tp + fp) 1⟩ ⟨tp, max (tp + fn) 1⟩))
        (Q.add (Q.mul ⟨bn * bn, bd * bd⟩ ⟨tp, max (tp + fp) 1⟩) ⟨tp, max (tp + fn) 1⟩),
       ⟨tp, max (tp + fp) 1⟩, ⟨tp, max (tp + fn) 1⟩) := by
  simp only [f1, htp, if_true]

theorem f1_zero (fp fn bn bd : Nat) :
    f1 0 fp fn bn bd = (Q.zero, ⟨0, max (0 + fp) 1⟩, ⟨0, max (0 + fn) 1⟩) := by
  simp [f1]

/-- the shape of precision and recall -/
theorem Q.unit_max (a b : Nat) : (⟨a, max (a + b) 1⟩ : Q).unit := by
  simp only [Q.unit]; omega

theorem f1_prec_unit (tp fp fn bn bd : Nat) : (f1 tp fp fn bn bd).2.1.unit := Q.unit_max tp fp
theorem f1_rec_unit (tp fp fn bn bd : Nat) : (f1 tp fp fn bn bd).2.2.unit := Q.unit_max tp fn

theorem f1_f_unit (tp fp fn bn bd : Nat) (hbd : 0 < bd) : (f1 tp fp fn bn bd).1.unit := by
  rcases Nat.eq_zero_or_pos tp with rfl | htp
  · rw [f1_zero]; exact Q.zero_unit
  · rw [f1_of_pos _ _ _ _ _ htp]
    exact fbeta_unit _ _ _ (Nat.mul_pos hbd hbd) (f1_prec_unit tp fp fn bn bd) (f1_rec_unit tp fp fn bn bd) htp

theorem Q.add_bound {a v : Q} {m : Nat} (ha : 0 < a.den ∧ a.num ≤ m * a.den) (hv : v.unit) :
    0 < (Q.add a v).den ∧ (Q.add a v).num ≤ (m + 1) * (Q.add a v).den := by
  simp only [Q.add]
  refine ⟨Nat.mul_pos ha.1 hv.1, ?_⟩
  have h1 : a.num * v.den ≤ m * a.den * v.den := Nat.mul_le_mul_right _ ha.2
  have h2 : v.num * a.den ≤ v.den * a.den := Nat.mul_le_mul_right _ hv.2
  have e : (m + 1) * (a.den * v.den) = m * a.den * v.den + v.den * a.den := by
    rw [Nat.add_mul, Nat.one_mul, ← Nat.mul_assoc, Nat.mul_comm v.den]
  omega

theorem foldl_add_bound {α : Type} (g : α → Q) (l : List α) (hl : ∀ x ∈ l, (g x).unit) :
    ∀ (a : Q) (m : Nat), 0 < a.den ∧ a.num ≤ m * a.den →
      0 < (l.foldl (fun a v => Q.add a (g v)) a).den ∧
      (l.foldl (fun a v => Q.add a (g v)) a).num ≤ (m + l.length) * (l.foldl (fun a v => Q.add a (g v)) a).den := by
  induction l with
  | nil => intro a m ha; simpa using ha
  | cons x xs ih =>
    intro a m ha
    have hx := hl x (by simp)
    have := ih (fun y hy => hl y (by simp [hy])) (Q.add a (g x)) (m + 1) (Q.add_bound ha hx)
    simp only [List.foldl_cons, List.length_cons]
    have e : m + (xs.length + 1) = m + 1 + xs.length := by omega
    rw [e]; exact this

theorem mean_unit {α : Type} (g : α → Q) (l : List α) (hl : ∀ x ∈ l, (g x).unit) (n : Nat)
    (hn : l.length ≤ n) (hn0 : 0 < n) :
    ((l.foldl (fun a v => Q.add a (g v)) Q.zero).divNat n).unit := by
  obtain ⟨h1, h2⟩ := foldl_add_bound g l hl Q.zero 0 ⟨Nat.one_pos, by simp [Q.zero]⟩
  simp only [Q.divNat, Q.unit]
  refine ⟨Nat.mul_pos h1 hn0, ?_⟩
  generalize (l.foldl (fun a v => Q.add a (g v)) Q.zero) = q at *
  have : (0 + l.length) * q.den ≤ n * q.den := Nat.mul_le_mul_right _ (by omega)
  rw [Nat.mul_comm q.den n]; omega

theorem wsOpSet_nodup (ops : List WsOp) (mode : Nat) : (wsOpSet ops mode).Nodup := by
  unfold wsOpSet
  have h0 : (ops.zipIdx).Pairwise (fun a b => a.2 ≠ b.2) := by
    have := List.nodup_range' (s := 0) (n := ops.length) 1
    rw [← List.zipIdx_map_snd, List.Nodup, List.pairwise_map] at this
    exact this
  rw [List.Nodup, List.pairwise_map]
  apply List.Pairwise.filter
  exact h0.imp (fun {a b} h hab => h (by
    have := congrArg Prod.fst hab
    simpa using this))

theorem wsOpSet_replicate_keep (n mode : Nat) : wsOpSet (List.replicate n .keep) mode = [] := by
  unfold wsOpSet
  rw [List.map_eq_nil_iff, List.filter_eq_nil_iff]
  rintro ⟨op, k⟩ h
  have := (List.mem_zipIdx h).2.2
  simp at this
  subst this
  simp

theorem countTpFpFn_fold (l : List (Bool × Bool)) (a b c : Nat) :
    l.foldl (fun (x : Nat × Nat × Nat) (y : Bool × Bool) =>
      match x, y with
      | (tp, fp, fn), (p, t) =>
        match p, t with
        | true, true => (tp + 1, fp, fn)
        | true, false => (tp, fp + 1, fn)
        | false, true => (tp, fp, fn + 1)
        | _, _ => (tp, fp, fn)) (a, b, c) =
    (a + (l.filter (fun (p, t) => p && t)).length,
     b + (l.filter (fun (p, t) => p && !t)).length,
     c + (l.filter (fun (p, t) => !p && t)).length) := by
  induction l generalizing a b c with
  | nil => rfl
  | cons x xs ih =>
    -- in each case the step and the three filters compute; what is left is `n + 1 + k = n + (k + 1)` in one component
    obtain ⟨p, t⟩ := x
    cases p <;> cases t <;> rw [List.foldl_cons, ih]
    · rfl
    · exact congrArg (fun z => (_, _, z)) (Nat.add_right_comm c 1 _)
    · exact congrArg (fun z => (_, z, _)) (Nat.add_right_comm b 1 _)
    · exact congrArg (fun z => (z, _, _)) (Nat.add_right_comm a 1 _)

end Tu

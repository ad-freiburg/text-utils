import TuModel.Lemmas.EditL
namespace Tu

/-! ## the table is the recurrence, and every recorded operation is justified by it -/

/-- value of the reference recurrence for the prefixes of length `i` and `j` -/
def refCell (fl : EFlags) (a b : List (List Nat)) (i j : Nat) : Nat :=
  osaR fl (a.take i).reverse (b.take j).reverse

theorem refCell_zero_left (fl : EFlags) (a b : List (List Nat)) (j : Nat) (hj : j ≤ b.length) :
    refCell fl a b 0 j = j := by
  rw [refCell, List.take_zero, List.reverse_nil, osaR_nil_left, List.length_reverse, List.length_take,
    Nat.min_eq_left hj]

theorem refCell_zero_right (fl : EFlags) (a b : List (List Nat)) (i : Nat) (hi : i ≤ a.length) :
    refCell fl a b i 0 = i := by
  rw [refCell, List.take_zero, List.reverse_nil, osaR_nil_right, List.length_reverse, List.length_take,
    Nat.min_eq_left hi]

theorem refCell_succ (fl : EFlags) (a b : List (List Nat)) (i j : Nat) (hi : i < a.length) (hj : j < b.length) :
    refCell fl a b (i + 1) (j + 1) =
      (minByFst (candidates fl (a.getD i []) (b.getD j [])
        (if i = 0 then none else a[i - 1]?) (if j = 0 then none else b[j - 1]?)
        (refCell fl a b i (j + 1)) (refCell fl a b (i + 1) j) (refCell fl a b i j)
        (refCell fl a b (i - 1) (j - 1)))).1 := by
  unfold refCell
  rw [take_succ_reverse a i hi, take_succ_reverse b j hj, osaR_cons,
    take_reverse_head? a i (Nat.le_of_lt hi), take_reverse_head? b j (Nat.le_of_lt hj),
    take_reverse_tail a i (Nat.le_of_lt hi), take_reverse_tail b j (Nat.le_of_lt hj)]

theorem prev_eq_some {l : List (List Nat)} {i : Nat} {u : List Nat} (h : (if i = 0 then none else l[i - 1]?) = some u) :
    ∃ i', i = i' + 1 ∧ l.getD i' [] = u := by
  cases i with
  | zero => cases h
  | succ i =>
    rw [if_neg (Nat.succ_ne_zero i), Nat.add_sub_cancel] at h
    exact ⟨i, rfl, by rw [List.getD_eq_getElem?_getD, h]; rfl⟩

/-- what the operation recorded in a cell promises, in terms of the reference recurrence: `EOpOK fl a b i j op` for
cell `(i, j)` -/
inductive EOpOK (fl : EFlags) (a b : List (List Nat)) : Nat → Nat → EOp → Prop
  | zero : EOpOK fl a b 0 0 .keep
  | keep {i j} : a.getD i [] = b.getD j [] → refCell fl a b (i + 1) (j + 1) = refCell fl a b i j →
      EOpOK fl a b (i + 1) (j + 1) .keep
  | delete {i j} : refCell fl a b (i + 1) j = refCell fl a b i j + 1 → EOpOK fl a b (i + 1) j .delete
  | insert {i j} : refCell fl a b i (j + 1) = refCell fl a b i j + 1 → EOpOK fl a b i (j + 1) .insert
  | replace {i j} : canReplace fl (a.getD i []) (b.getD j []) = true →
      refCell fl a b (i + 1) (j + 1) = refCell fl a b i j + 1 → EOpOK fl a b (i + 1) (j + 1) .replace
  | swap {i j} : a.getD (i + 1) [] = b.getD j [] → a.getD i [] = b.getD (j + 1) [] → fl.swap = true →
      canReplace fl (a.getD (i + 1) []) (a.getD i []) = true →
      refCell fl a b (i + 2) (j + 2) = refCell fl a b i j + 1 → EOpOK fl a b (i + 2) (j + 2) .swap

def ECellOK (fl : EFlags) (a b : List (List Nat)) (i j : Nat) (v : Nat × EOp) : Prop :=
  v.1 = refCell fl a b i j ∧ EOpOK fl a b i j v.2

theorem stepCell_ok (fl : EFlags) (a b : List (List Nat)) (get : Nat → Nat → Nat × EOp) (i j : Nat)
    (hi : i ≤ a.length) (hj : j ≤ b.length)
    (hget : ∀ i' j', (i' < i ∨ (i' = i ∧ j' < j)) → j' ≤ b.length → ECellOK fl a b i' j' (get i' j')) :
    ECellOK fl a b i j (stepCell fl a b get i j) := by
  cases i with
  | zero =>
    cases j with
    | zero => exact ⟨(refCell_zero_left fl a b 0 hj).symm, .zero⟩
    | succ j =>
      refine ⟨(refCell_zero_left fl a b _ hj).symm, .insert ?_⟩
      rw [refCell_zero_left fl a b _ hj, refCell_zero_left fl a b _ (by omega)]
  | succ i =>
    cases j with
    | zero =>
      refine ⟨(refCell_zero_right fl a b _ hi).symm, .delete ?_⟩
      rw [refCell_zero_right fl a b _ hi, refCell_zero_right fl a b _ (by omega)]
    | succ j =>
      have hrec := refCell_succ fl a b i j hi hj
      -- the cell is computed from the same four values as the recurrence
      rw [stepCell, (hget i (j + 1) (.inl (Nat.lt_succ_self i)) hj).1,
        (hget (i + 1) j (.inr ⟨rfl, Nat.lt_succ_self j⟩) (Nat.le_of_succ_le hj)).1,
        (hget i j (.inl (Nat.lt_succ_self i)) (Nat.le_of_succ_le hj)).1,
        (hget (i - 1) (j - 1) (.inl (Nat.lt_succ_of_le (Nat.sub_le i 1)))
          (Nat.le_trans (Nat.sub_le j 1) (Nat.le_of_succ_le hj))).1]
      refine ⟨hrec.symm, ?_⟩
      rcases mem_candidates.mp (minByFst_mem candidates_ne_nil) with
        h | h | ⟨he, h⟩ | ⟨_, hr, h⟩ | ⟨u, v, hu, hv, hs, he1, he2, hr, h⟩
      · rw [h]; exact .delete (by rw [hrec, h])
      · rw [h]; exact .insert (by rw [hrec, h])
      · rw [h]; exact .keep he (by rw [hrec, h])
      · rw [h]; exact .replace hr (by rw [hrec, h])
      · -- a swap candidate exists only when both previous characters do
        obtain ⟨i, rfl, rfl⟩ := prev_eq_some hu
        obtain ⟨j, rfl, rfl⟩ := prev_eq_some hv
        rw [h]
        exact .swap he1 he2 hs hr (by rw [hrec, h]; rfl)

theorem fillTable_ok (fl : EFlags) (a b : List (List Nat)) :
    ∀ i j, i ≤ a.length → j ≤ b.length → ECellOK fl a b i j (tblGet (fillTable fl a b) (b.length + 1) i j) := by
  -- unfolded by hand: left to itself the unifier opens `Array.getD` before `fillTable`, which is slow
  unfold fillTable tblGet
  exact flat_fill_spec (0, EOp.none) (stepCell fl a b) a.length b.length (ECellOK fl a b) (stepCell_ok fl a b)

theorem editDistance_eq_refCell (fl : EFlags) (a b : List (List Nat)) :
    editDistance fl a b = refCell fl a b a.length b.length :=
  (fillTable_ok fl a b _ _ (Nat.le_refl _) (Nat.le_refl _)).1

end Tu

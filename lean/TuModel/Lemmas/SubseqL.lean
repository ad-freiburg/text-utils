/-
  The two loops of `find_subsequences_of_max_size_k` (`firstFit`, `subseqLoop` of Model/Batch.lean) for an
  arbitrary size function `sz s e` on index ranges: the windows the enumeration emits are non-empty, inside the
  array, fit the limit and cannot be extended to the right; they increase in both coordinates; and, when a larger
  range is never smaller, every fitting range lies inside an emitted one.  `findSubseq` (sizes of padded or
  unpadded batches) and `findSubseqSum` (byte sums, Model/CharString.lean) are the two instances.
-/
import TuModel.Model.Batch
namespace Tu

theorem subseqLoop_zero (sz : Nat → Nat → Nat) (n k st en prev : Nat) (acc : List (Nat × Nat)) :
    subseqLoop sz n k 0 st en prev acc = acc.reverse := by rw [subseqLoop]

theorem subseqLoop_succ (sz : Nat → Nat → Nat) (n k fuel st en prev : Nat) (acc : List (Nat × Nat)) :
    subseqLoop sz n k (fuel + 1) st en prev acc =
      if st < n ∧ en ≤ n then
        if sz st en ≤ k then
          subseqLoop sz n k fuel st (en + 1) (sz st en) (if en ≥ n then (st, en) :: acc else acc)
        else if prev ≤ k then subseqLoop sz n k fuel (st + 1) en (sz st en) ((st, en - 1) :: acc)
        else subseqLoop sz n k fuel (st + 1) (max en (st + 2)) (sz st en) acc
      else acc.reverse := by
  rw [subseqLoop]

theorem subseqLoop_stop (sz : Nat → Nat → Nat) (n k fuel st en prev : Nat) (acc : List (Nat × Nat))
    (h : ¬ (st < n ∧ en ≤ n)) : subseqLoop sz n k fuel st en prev acc = acc.reverse := by
  cases fuel with
  | zero => exact subseqLoop_zero ..
  | succ f => rw [subseqLoop_succ, if_neg h]

/-- what every state of the main loop satisfies when it is started as `findSubseq` starts it -/
def SubseqInv (sz : Nat → Nat → Nat) (k st en prev : Nat) : Prop :=
  st < en ∧ (prev ≤ k → sz st (en - 1) ≤ k ∧ (en = st + 1 → sz st en ≤ k))

/-- the run of the main loop from the state `st en prev` and the windows it emits from there on, one constructor per
kind of step: the loop stops; the window grows; it reaches the end of the array and is emitted (the loop stops in the
next round); it has become too large after a size that fitted and is emitted without its last element; it is too
large again and `st` moves on -/
inductive SubseqRun (sz : Nat → Nat → Nat) (n k : Nat) : Nat → Nat → Nat → List (Nat × Nat) → Prop
  | stop {st en prev} : ¬ (st < n ∧ en ≤ n) → SubseqRun sz n k st en prev []
  | grow {st en prev r} : en < n → sz st en ≤ k → SubseqRun sz n k st (en + 1) (sz st en) r → SubseqRun sz n k st en prev r
  | last {st prev} : st < n → sz st n ≤ k → SubseqRun sz n k st n prev [(st, n)]
  | emit {st e prev r} : st < e → e < n → k < sz st (e + 1) → prev ≤ k → sz st e ≤ k →
      SubseqRun sz n k (st + 1) (e + 1) (sz st (e + 1)) r → SubseqRun sz n k st (e + 1) prev ((st, e) :: r)
  | skip {st en prev r} : k < sz st en → k < prev → SubseqRun sz n k (st + 1) (max en (st + 2)) (sz st en) r →
      SubseqRun sz n k st en prev r

/-- every step of the main loop advances `st + en` by at least one, so `2n + 1 - (st + en)` units of fuel suffice -/
theorem subseq_advance {n fuel st en : Nat} (h : 2 * n + 1 ≤ fuel + 1 + (st + en)) :
    2 * n + 1 ≤ fuel + (st + (en + 1)) ∧ 2 * n + 1 ≤ fuel + (st + 1 + en) ∧
      2 * n + 1 ≤ fuel + (st + 1 + max en (st + 2)) := by
  omega

theorem subseqLoop_run (sz : Nat → Nat → Nat) (n k : Nat) : ∀ (fuel st en prev : Nat) (acc : List (Nat × Nat)),
    2 * n + 1 ≤ fuel + (st + en) → SubseqInv sz k st en prev →
      ∃ r, subseqLoop sz n k fuel st en prev acc = acc.reverse ++ r ∧ SubseqRun sz n k st en prev r := by
  intro fuel
  induction fuel with
  | zero =>
    intro st en prev acc hf _
    exact ⟨[], by rw [subseqLoop_zero, List.append_nil], .stop (by omega)⟩
  | succ fuel ih =>
    intro st en prev acc hf ⟨hlt, hb⟩
    obtain ⟨a1, a2, a3⟩ := subseq_advance hf
    rw [subseqLoop_succ]
    by_cases hbd : st < n ∧ en ≤ n
    · rw [if_pos hbd]
      by_cases hs : sz st en ≤ k
      · rw [if_pos hs]
        by_cases hn : en ≥ n
        · obtain rfl : en = n := Nat.le_antisymm hbd.2 hn
          rw [if_pos hn, subseqLoop_stop _ _ _ _ _ _ _ _ fun h => Nat.not_succ_le_self _ h.2, List.reverse_cons]
          exact ⟨_, rfl, .last hbd.1 hs⟩
        · rw [if_neg hn]
          obtain ⟨r, hr, hrun⟩ := ih st (en + 1) (sz st en) acc a1
            ⟨Nat.lt_succ_of_lt hlt, fun _ => ⟨hs, fun h => absurd (Nat.succ.inj h) (Nat.ne_of_gt hlt)⟩⟩
          exact ⟨r, hr, .grow (Nat.lt_of_not_le hn) hs hrun⟩
      · rw [if_neg hs]
        by_cases hp : prev ≤ k
        · obtain ⟨e, rfl⟩ : ∃ e, en = e + 1 := ⟨en - 1, (Nat.sub_add_cancel (Nat.one_le_of_lt hlt)).symm⟩
          have hse : st < e := Nat.lt_of_le_of_ne (Nat.le_of_lt_succ hlt) fun h => hs ((hb hp).2 (h ▸ rfl))
          obtain ⟨r, hr, hrun⟩ := ih (st + 1) (e + 1) (sz st (e + 1)) ((st, e) :: acc) a2
            ⟨Nat.succ_lt_succ hse, fun h => absurd h hs⟩
          rw [if_pos hp, Nat.add_sub_cancel, hr, List.reverse_cons, List.append_assoc]
          exact ⟨_, rfl, .emit hse (Nat.lt_of_succ_le hbd.2) (Nat.lt_of_not_le hs) hp (hb hp).1 hrun⟩
        · rw [if_neg hp]
          obtain ⟨r, hr, hrun⟩ := ih (st + 1) (max en (st + 2)) (sz st en) acc a3
            ⟨Nat.lt_of_lt_of_le (Nat.lt_succ_self _) (Nat.le_max_right ..), fun h => absurd h hs⟩
          exact ⟨r, hr, .skip (Nat.lt_of_not_le hs) (Nat.lt_of_not_le hp) hrun⟩
    · rw [if_neg hbd]
      exact ⟨[], (List.append_nil _).symm, .stop hbd⟩

def Emitted (sz : Nat → Nat → Nat) (n k : Nat) (p : Nat × Nat) : Prop :=
  p.1 < p.2 ∧ p.2 ≤ n ∧ sz p.1 p.2 ≤ k ∧ (p.2 = n ∨ k < sz p.1 (p.2 + 1))

namespace SubseqRun
variable {sz : Nat → Nat → Nat} {n k st en prev : Nat} {r : List (Nat × Nat)}

theorem emitted (h : SubseqRun sz n k st en prev r) : ∀ p ∈ r, Emitted sz n k p := by
  induction h with
  | stop _ => exact nofun
  | grow _ _ _ ih => exact ih
  | last hst hs => exact fun p hp => List.mem_singleton.mp hp ▸ ⟨hst, Nat.le_refl _, hs, .inl rfl⟩
  | emit hse he hbig _ hfit _ ih => exact List.forall_mem_cons.mpr ⟨⟨hse, Nat.le_of_lt he, hfit, .inr hbig⟩, ih⟩
  | skip _ _ _ ih => exact ih

theorem ahead (h : SubseqRun sz n k st en prev r) : ∀ p ∈ r, st ≤ p.1 ∧ en ≤ p.2 + 1 ∧ (k < prev → en ≤ p.2) := by
  induction h with
  | stop _ => exact nofun
  | grow _ _ _ ih => exact fun p hp => by have := ih p hp; omega
  | last _ _ => exact fun p hp => by rw [List.mem_singleton.mp hp]; omega
  | emit _ _ hbig hp _ _ ih =>
    exact List.forall_mem_cons.mpr ⟨by omega, fun p hp' => by have := ih p hp'; omega⟩
  | skip hbig _ _ ih => exact fun p hp => by have := ih p hp; omega

theorem increasing (h : SubseqRun sz n k st en prev r) : r.Pairwise (fun a b => a.1 < b.1 ∧ a.2 < b.2) := by
  induction h with
  | stop _ => exact .nil
  | grow _ _ _ ih => exact ih
  | last _ _ => exact List.pairwise_singleton ..
  | emit _ _ hbig _ _ hrun ih =>
    exact List.pairwise_cons.mpr ⟨fun p hp => have := hrun.ahead p hp; ⟨this.1, this.2.2 hbig⟩, ih⟩
  | skip _ _ _ ih => exact ih

/-- if growing a window never shrinks its size, a fitting window `(s, e)` ahead of the two pointers (`st ≤ s`, and
`en ≤ e` unless the size just fitted) lies inside an emitted one: `st` cannot pass `s` while `en ≤ e`, because
`(st, en)` too large and `(s, e)` fitting exclude `st = s` -/
theorem covers (hmono : ∀ s s' e e', s' ≤ s → e ≤ e' → sz s e ≤ sz s' e') {s e : Nat} (hse : s < e) (he : e ≤ n)
    (hfit : sz s e ≤ k) (h : SubseqRun sz n k st en prev r) :
    st ≤ s → en ≤ e ∨ (prev ≤ k ∧ en ≤ n) → ∃ p ∈ r, p.1 ≤ s ∧ e ≤ p.2 := by
  have hpass : ∀ st en, st ≤ s → en ≤ e → k < sz st en → st + 1 ≤ s := by
    intro st en h1 h2 hbig
    rcases Nat.lt_or_eq_of_le h1 with h | rfl
    · exact h
    · exact absurd (Nat.le_trans (hmono _ _ _ _ (Nat.le_refl _) h2) hfit) (Nat.not_le.mpr hbig)
  induction h with
  | stop hbd =>
    exact fun h1 h2 => absurd ⟨Nat.lt_of_le_of_lt h1 (Nat.lt_of_lt_of_le hse he), h2.elim (Nat.le_trans · he) (·.2)⟩ hbd
  | grow hn hs _ ih => exact fun h1 _ => ih h1 (.inr ⟨hs, hn⟩)
  | last _ _ => exact fun h1 _ => ⟨_, List.mem_singleton_self _, h1, he⟩
  | @emit st e' _ _ _ _ hbig _ _ _ ih =>
    intro h1 _
    by_cases hee : e' + 1 ≤ e
    · obtain ⟨p, hp, h⟩ := ih (hpass _ _ h1 hee hbig) (.inl hee)
      exact ⟨p, List.mem_cons_of_mem _ hp, h⟩
    · exact ⟨_, List.mem_cons_self, h1, Nat.le_of_lt_succ (Nat.lt_of_not_le hee)⟩
  | skip hbig hp _ ih =>
    intro h1 h2
    have hee := h2.resolve_right fun h => Nat.not_le.mpr hp h.1
    have hs1 := hpass _ _ h1 hee hbig
    exact ih hs1 (.inl (Nat.max_le.mpr ⟨hee, Nat.succ_le_of_lt (Nat.lt_of_le_of_lt hs1 hse)⟩))

end SubseqRun

theorem subseqLoop_fuel (sz : Nat → Nat → Nat) (n k extra : Nat) :
    ∀ (fuel st en prev : Nat) (acc : List (Nat × Nat)), 2 * n + 1 ≤ fuel + (st + en) →
      subseqLoop sz n k (fuel + extra) st en prev acc = subseqLoop sz n k fuel st en prev acc := by
  intro fuel
  induction fuel with
  | zero =>
    intro st en prev acc h
    rw [subseqLoop_zero, subseqLoop_stop _ _ _ _ _ _ _ _ (by omega)]
  | succ fuel ih =>
    intro st en prev acc h
    obtain ⟨a1, a2, a3⟩ := subseq_advance h
    rw [Nat.add_right_comm, subseqLoop_succ, subseqLoop_succ, ih st (en + 1) _ _ a1, ih (st + 1) en _ _ a2,
      ih (st + 1) (max en (st + 2)) _ _ a3]

theorem firstFit_zero (sz : Nat → Nat → Nat) (n k st : Nat) : firstFit sz n k 0 st = none := by rw [firstFit]

theorem firstFit_succ (sz : Nat → Nat → Nat) (n k fuel st : Nat) :
    firstFit sz n k (fuel + 1) st =
      if st < n then (if sz st (st + 1) > k then firstFit sz n k fuel (st + 1) else some st) else none := by
  rw [firstFit]

theorem firstFit_spec (sz : Nat → Nat → Nat) (n k : Nat) : ∀ (fuel st : Nat), n < fuel + st →
    match firstFit sz n k fuel st with
    | some r => st ≤ r ∧ r < n ∧ sz r (r + 1) ≤ k ∧ ∀ i, st ≤ i → i < r → k < sz i (i + 1)
    | none => ∀ i, st ≤ i → i < n → k < sz i (i + 1) := by
  intro fuel
  induction fuel with
  | zero => intro st hf; rw [firstFit_zero]; exact fun i h1 h2 => absurd hf (by omega)
  | succ fuel ih =>
    intro st hf
    rw [firstFit_succ]
    by_cases h1 : st < n
    · rw [if_pos h1]
      by_cases h2 : sz st (st + 1) > k
      · rw [if_pos h2]
        have := ih (st + 1) (by omega)
        split at this
        · exact ⟨by omega, this.2.1, this.2.2.1,
            fun i hi hir => (Nat.eq_or_lt_of_le hi).elim (· ▸ h2) (this.2.2.2 i · hir)⟩
        · exact fun i hi hin => (Nat.eq_or_lt_of_le hi).elim (· ▸ h2) (this i · hin)
      · rw [if_neg h2]
        exact ⟨Nat.le_refl _, h1, Nat.le_of_not_lt h2, fun i a b => absurd a (Nat.not_le.mpr b)⟩
    · rw [if_neg h1]
      exact fun i a b => absurd (Nat.lt_of_le_of_lt a b) h1

/-- `find_subsequences_of_max_size_k` for an arbitrary size function on index ranges -/
def subseqs (sz : Nat → Nat → Nat) (n k : Nat) : List (Nat × Nat) :=
  match firstFit sz n k (n + 1) 0 with
  | none => []
  | some st => subseqLoop sz n k (2 * n + 2) st (st + 1) (sz st (st + 1)) []

theorem subseqs_cases (sz : Nat → Nat → Nat) (n k : Nat) :
    (subseqs sz n k = [] ∧ ∀ i, i < n → k < sz i (i + 1)) ∨
    ∃ st, st < n ∧ sz st (st + 1) ≤ k ∧ (∀ i, i < st → k < sz i (i + 1)) ∧
      (sz st st ≤ k → SubseqRun sz n k st (st + 1) (sz st (st + 1)) (subseqs sz n k)) := by
  have := firstFit_spec sz n k (n + 1) 0 (by omega)
  unfold subseqs
  split at this
  · next st hf =>
    refine .inr ⟨st, this.2.1, this.2.2.1, fun i => this.2.2.2 i (Nat.zero_le _), fun h0 => ?_⟩
    obtain ⟨r, hr, hrun⟩ := subseqLoop_run sz n k (2 * n + 2) st (st + 1) (sz st (st + 1)) []
      (by omega) ⟨Nat.lt_succ_self _, fun _ => ⟨h0, fun _ => this.2.2.1⟩⟩
    rw [hf]
    dsimp only
    exact hr ▸ hrun
  · next hf => exact .inl ⟨by rw [hf], fun i => this i (Nat.zero_le _)⟩

section
variable {sz : Nat → Nat → Nat} {n k : Nat}

theorem subseqs_emitted (h0 : ∀ s, sz s s ≤ k) : ∀ p ∈ subseqs sz n k, Emitted sz n k p := by
  rcases subseqs_cases sz n k with ⟨h, _⟩ | ⟨st, _, _, _, h⟩
  · rw [h]; exact nofun
  · exact (h (h0 st)).emitted

theorem subseqs_increasing (h0 : ∀ s, sz s s ≤ k) :
    (subseqs sz n k).Pairwise (fun a b => a.1 < b.1 ∧ a.2 < b.2) := by
  rcases subseqs_cases sz n k with ⟨h, _⟩ | ⟨st, _, _, _, h⟩
  · rw [h]; exact .nil
  · exact (h (h0 st)).increasing

theorem subseqs_covers (h0 : ∀ s, sz s s ≤ k) (hmono : ∀ s s' e e', s' ≤ s → e ≤ e' → sz s e ≤ sz s' e')
    {s e : Nat} (hse : s < e) (he : e ≤ n) (hfit : sz s e ≤ k) : ∃ p ∈ subseqs sz n k, p.1 ≤ s ∧ e ≤ p.2 := by
  have hs1 : sz s (s + 1) ≤ k := Nat.le_trans (hmono _ _ _ _ (Nat.le_refl _) hse) hfit
  rcases subseqs_cases sz n k with ⟨_, hall⟩ | ⟨st, _, _, hbefore, h⟩
  · exact absurd hs1 (Nat.not_le.mpr (hall s (Nat.lt_of_lt_of_le hse he)))
  · have hle : st ≤ s := Nat.le_of_not_lt fun hlt => Nat.not_le.mpr (hbefore s hlt) hs1
    exact (h (h0 st)).covers hmono hse he hfit hle (.inl (Nat.succ_le_of_lt (Nat.lt_of_le_of_lt hle hse)))

theorem subseqs_eq_nil (h : ∀ i, i < n → k < sz i (i + 1)) : subseqs sz n k = [] := by
  rcases subseqs_cases sz n k with ⟨h', _⟩ | ⟨st, hn, hst, _⟩
  · exact h'
  · exact absurd hst (Nat.not_le.mpr (h st hn))

end

theorem findSubseq_eq_subseqs (p : Bool) (values : List Item) (k : Nat) :
    findSubseq p values k =
      subseqs (fun s e => itemsLimit p ((values.drop s).take (e - s))) values.length k := rfl

end Tu

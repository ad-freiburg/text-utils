/-
  The recount layer of C19 (`greedyTable`, Model/BpeTrain.lean): what one replayed entry says (`mem_greedyReplay_cons`);
  a table whose `entriesInOrder` is defined has every id `0..m-1` exactly once (pigeonhole), so that id order and key
  lookup agree; every replayed entry is the concatenation of two tokens that existed before (`replay_inv`).
-/
import TuModel.Lemmas.BpeTrainWord
import TuModel.Lemmas.BpeWf
import TuModel.Lemmas.ListL
namespace Tu.BpeTrainL
open Tu

theorem replacePairAux_flatten (x y : List Nat) :
    ∀ (w acc : List (List Nat)), (replacePairAux x y w acc).flatten = acc.reverse.flatten ++ w.flatten := by
  intro w
  induction w with
  | nil => intro acc; simp [replacePairAux]
  | cons s rest ih =>
    intro acc
    cases acc with
    | nil => simp [replacePairAux, ih]
    | cons last acc =>
      rw [replacePairAux]
      split
      · rw [ih]; simp [List.flatten_append]
      · rw [ih]; simp [List.flatten_append]

theorem mem_allPairs (c : Corpus) (p : List Nat × List Nat) :
    p ∈ allPairs c ↔ ∃ w n, (w, n) ∈ c ∧ p ∈ wordPairs w := by
  unfold allPairs
  rw [List.mem_eraseDups, List.mem_flatMap]
  constructor
  · rintro ⟨⟨w, n⟩, hm, hp⟩; exact ⟨w, n, hm, hp⟩
  · rintro ⟨w, n, hm, hp⟩; exact ⟨(w, n), hm, hp⟩

theorem pairFreq_pos_mem (c : Corpus) (p : List Nat × List Nat) (h : 0 < pairFreq c p) : p ∈ allPairs c :=
  (mem_allPairs c p).mpr (BpeTrainIncL.pairFreq_pos_occurs c p h)

theorem maxPairFreq_le_iff (c : Corpus) (m : Nat) : maxPairFreq c ≤ m ↔ ∀ q ∈ allPairs c, pairFreq c q ≤ m := by
  unfold maxPairFreq
  rw [foldl_max_le_iff, List.forall_mem_map]
  exact and_iff_right (Nat.zero_le m)

theorem pairFreq_le_max (c : Corpus) (q : List Nat × List Nat) : pairFreq c q ≤ maxPairFreq c := by
  by_cases h : 0 < pairFreq c q
  · exact (maxPairFreq_le_iff c _).mp (Nat.le_refl _) q (pairFreq_pos_mem c q h)
  · omega

theorem mem_greedyReplay_cons (c : Corpus) (e : List Nat) (es : List (List Nat)) (c' : Corpus) :
    c' ∈ greedyReplay c (e :: es) ↔
      ∃ p, p ∈ allPairs c ∧ p.1 ++ p.2 = e ∧ pairFreq c p = maxPairFreq c ∧ maxPairFreq c ≠ 0 ∧
        c' ∈ greedyReplay (applyMerge c p) es := by
  rw [greedyReplay]
  simp only
  split
  · rename_i hm
    exact ⟨fun h => (nomatch h), fun ⟨_, _, _, _, h, _⟩ => absurd hm h⟩
  · rename_i hm
    rw [List.mem_flatMap]
    constructor
    · rintro ⟨p, hp, h4⟩
      obtain ⟨h1, h23⟩ := List.mem_filter.mp hp
      obtain ⟨h2, h3⟩ := Bool.and_eq_true_iff.mp h23
      exact ⟨p, h1, eq_of_beq h2, eq_of_beq h3, hm, h4⟩
    · rintro ⟨p, h1, h2, h3, _, h4⟩
      exact ⟨p, List.mem_filter.mpr ⟨h1, Bool.and_eq_true_iff.mpr ⟨beq_iff_eq.mpr h2, beq_iff_eq.mpr h3⟩⟩, h4⟩

theorem greedyReplay_head (c : Corpus) (e : List Nat) (es : List (List Nat)) (c' : Corpus)
    (h : c' ∈ greedyReplay c (e :: es)) :
    ∃ p, p ∈ allPairs c ∧ p.1 ++ p.2 = e ∧ 0 < pairFreq c p ∧ (∀ q ∈ allPairs c, pairFreq c q ≤ pairFreq c p) ∧
      c' ∈ greedyReplay (applyMerge c p) es := by
  obtain ⟨p, hpa, hpe, hmax, hne, hc'⟩ := (mem_greedyReplay_cons c e es c').mp h
  exact ⟨p, hpa, hpe, Nat.pos_of_ne_zero (hmax ▸ hne), fun q _ => hmax ▸ pairFreq_le_max c q, hc'⟩

theorem entriesInOrder_spec (t : MTable) (es : List (List Nat)) (h : entriesInOrder t = some es) :
    es.length = t.length ∧ ∀ k, k < t.length → tbytes t k = es[k]? := by
  unfold entriesInOrder at h
  obtain ⟨h1, h2⟩ := mapM_eq_some h
  rw [List.length_range] at h1
  refine ⟨h1, ?_⟩
  intro k hk
  have := h2 k (by rw [List.length_range]; exact hk)
  rw [List.getElem_range] at this
  exact this

theorem entriesInOrder_mem {t : MTable} {es : List (List Nat)} (h : entriesInOrder t = some es) {k : Nat} {b : List Nat}
    (hk : es[k]? = some b) : (b, k) ∈ t := by
  obtain ⟨hlen, hb⟩ := entriesInOrder_spec t es h
  exact tbytes_mem ((hb k (hlen ▸ (List.getElem?_eq_some_iff.mp hk).1)).trans hk)

/-- pigeonhole: every id below the length occurs, so the ids are a permutation of `0..m-1` -/
theorem table_ids_perm (t : MTable) (es : List (List Nat)) (h : entriesInOrder t = some es) :
    (List.range t.length).Perm (t.map (·.2)) :=
  ids_perm_range fun k hk =>
    ⟨_, entriesInOrder_mem h (List.getElem?_eq_getElem ((entriesInOrder_spec t es h).1 ▸ hk))⟩

theorem table_ids_once (t : MTable) (es : List (List Nat)) (h : entriesInOrder t = some es) :
    ∀ k, k < t.length → (t.filter (fun e => e.2 == k)).length = 1 := by
  intro k hk
  have hc : (t.map (·.2)).count k = t.countP (fun e => e.2 == k) := List.countP_map
  rw [← List.countP_eq_length_filter, ← hc, ← (table_ids_perm t es h).count_eq, List.count_range, if_pos hk]

theorem table_entry (t : MTable) (es : List (List Nat)) (h : entriesInOrder t = some es) :
    ∀ e ∈ t, es[e.2]? = some e.1 := by
  have honce := table_ids_once t es h
  intro e he
  have hlt : e.2 < es.length := (entriesInOrder_spec t es h).1 ▸ id_lt_of_once honce e he
  rw [List.getElem?_eq_getElem hlt]
  exact congrArg (fun x => some x.1)
    (ids_unique_of_once honce _ (entriesInOrder_mem h (List.getElem?_eq_getElem hlt)) e he rfl)

theorem table_keys_unique (t : MTable) (es : List (List Nat)) (h : entriesInOrder t = some es) (hnd : es.Nodup) :
    ∀ e1 ∈ t, ∀ e2 ∈ t, e1.1 = e2.1 → e1 = e2 := by
  intro e1 h1 e2 h2 heq
  have g1 := table_entry t es h e1 h1
  have g2 := table_entry t es h e2 h2
  rw [heq] at g1
  exact ids_unique_of_once (table_ids_once t es h) e1 h1 e2 h2
    ((List.getElem?_inj (List.getElem?_eq_some_iff.mp g1).1 hnd).mp (g1.trans g2.symm))

theorem table_tlookup (t : MTable) (es : List (List Nat)) (h : entriesInOrder t = some es) (hnd : es.Nodup)
    (j : Nat) (b : List Nat) (hj : es[j]? = some b) : tlookup t b = some j :=
  tlookup_of_mem (table_keys_unique t es h hnd) (entriesInOrder_mem h hj)

/-- a token that existed before: a single byte or one of the entries `prev` -/
def Good (prev : List (List Nat)) (tok : List Nat) : Prop := (∃ b, b < 256 ∧ tok = [b]) ∨ tok ∈ prev

def AllB (tok : List Nat) : Prop := tok ≠ [] ∧ ∀ b ∈ tok, b < 256

theorem AllB.append {x y : List Nat} (hx : AllB x) (hy : AllB y) : AllB (x ++ y) := by
  refine ⟨by simp [hx.1], ?_⟩
  intro b hb
  rcases List.mem_append.1 hb with hb | hb
  · exact hx.2 b hb
  · exact hy.2 b hb

def CorpusInv (prev : List (List Nat)) (c : Corpus) : Prop :=
  ∀ w n, (w, n) ∈ c → ∀ tok ∈ w, Good prev tok ∧ AllB tok

theorem replay_inv : ∀ (es : List (List Nat)) (c : Corpus) (prev : List (List Nat)) (c' : Corpus),
    CorpusInv prev c → c' ∈ greedyReplay c es →
    ∀ i (hi : i < es.length), ∃ l r, l ++ r = es[i] ∧
      Good (prev ++ es.take i) l ∧ Good (prev ++ es.take i) r ∧ AllB l ∧ AllB r := by
  intro es
  induction es with
  | nil => intro c prev c' _ _ i hi; simp at hi
  | cons e es ih =>
    intro c prev c' hinv hc' i hi
    obtain ⟨p, hpa, hpe, _, _, hrest⟩ := greedyReplay_head c e es c' hc'
    obtain ⟨w, n, hwn, hpw⟩ := (mem_allPairs c p).mp hpa
    obtain ⟨hp1, hp2⟩ := BpeTrainIncL.wordPairs_mem w p hpw
    obtain ⟨g1, a1⟩ := hinv w n hwn _ hp1
    obtain ⟨g2, a2⟩ := hinv w n hwn _ hp2
    cases i with
    | zero =>
      refine ⟨p.1, p.2, by simpa using hpe, ?_, ?_, a1, a2⟩
      · simpa using g1
      · simpa using g2
    | succ i =>
      have hinv' : CorpusInv (prev ++ [e]) (applyMerge c p) := by
        intro w' n' hw' tok htok
        obtain ⟨w0, n0, hm0, heq⟩ := BpeTrainIncL.mem_applyMerge c p _ hw'
        obtain ⟨rfl, rfl⟩ := Prod.mk.inj heq
        rw [BpeTrainIncL.replacePairInWord_eq_rep w0 p.1 p.2 a2.1] at htok
        rcases BpeTrainIncL.rep_mem p.1 p.2 w0 tok htok with h | h
        · obtain ⟨g, a⟩ := hinv w0 _ hm0 tok h
          exact ⟨g.imp_right (List.mem_append_left _), a⟩
        · rw [h]
          refine ⟨Or.inr ?_, a1.append a2⟩
          rw [hpe]; simp
      obtain ⟨l, r, hlr, gl, gr, al, ar⟩ := ih (applyMerge c p) (prev ++ [e]) c' hinv' hrest i (by simpa using hi)
      refine ⟨l, r, by simpa using hlr, ?_, ?_, al, ar⟩
      · simpa [List.append_assoc] using gl
      · simpa [List.append_assoc] using gr

theorem initCorpus_inv (words : List (List Nat × Nat)) (hb : ∀ w ∈ words, ∀ b ∈ w.1, b < 256) :
    CorpusInv [] (initCorpus words) := by
  intro w n hw tok htok
  obtain ⟨w0, hw0, b, hbm, rfl⟩ := BpeTrainIncL.initCorpus_token words _ hw tok htok
  have := hb w0 hw0 b hbm
  exact ⟨Or.inl ⟨b, this, rfl⟩, List.cons_ne_nil _ _, fun x hx => (List.mem_singleton.mp hx) ▸ this⟩

end Tu.BpeTrainL

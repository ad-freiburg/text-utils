/-
  C10 — whitespace operations and repair are inverse; repair only touches whitespace.
  Model: `Tu.wsOps`, `Tu.repairCl` (Model/Whitespace.lean), cluster level.
-/
import TuModel.Lemmas.TextL
import TuModel.Lemmas.WhitespaceL
namespace Tu.C10
open Tu

/-- exactly one operation per character of `from`, whenever `operations` succeeds -/
theorem wsOps_length (f t : List (List Nat)) (o : List WsOp) (h : wsOps f t = some o) : o.length = f.length := by
  fun_induction wsOps f t generalizing o with
  | case1 => cases h; rfl
  | case2 _ _ _ _ _ ih | case3 _ _ _ _ _ _ ih | case4 _ _ _ _ _ _ _ ih | case6 _ _ _ ih =>
    obtain ⟨o', h1, rfl⟩ := Option.map_eq_some_iff.mp h
    exact congrArg (· + 1) (ih o' h1)
  | case5 | case7 => cases h

/-- by the shape of `from`: a character of `from` meets the same character of `to` (keep) or `sp` and that
character (insert); `sp` and a character meet the same (keep, keep) or the character alone (delete, keep) -/
theorem ops_repair_ch {f : List (List Nat)} (hf : CleanCh f) : ∀ {t : List (List Nat)}, CleanCh t →
    removeWsCl f = removeWsCl t → ∃ o, wsOps f t = some o ∧ repairAux f o false = t := by
  induction hf with
  | nil =>
    intro t ht hr
    exact ⟨[], wsOps_nil t, (ht.removeWsCl_eq_nil hr.symm).symm⟩
  | @ch c f' hw _ ih =>
    intro t ht hr
    rw [removeWsCl_cons_nonws hw] at hr
    obtain ⟨t', ht', hr', rfl | rfl⟩ := ht.cases_of_removeWsCl hr.symm
    · obtain ⟨o, ho, hrep⟩ := ih ht' hr'.symm
      exact ⟨.keep :: o, by rw [wsOps_keep, ho]; rfl, by simp [repairAux, hw, hrep]⟩
    · obtain ⟨o, ho, hrep⟩ := ih ht' hr'.symm
      refine ⟨.insert :: o, ?_, by simp [repairAux, hw, hrep]⟩
      rw [wsOps_insert _ _ (ne_sp_of_nonws hw) isWsCl_sp, List.drop_one, List.tail_cons, ho]; rfl
  | @sep c f' hw _ ih =>
    intro t ht hr
    rw [removeWsCl_sp_cons, removeWsCl_cons_nonws hw] at hr
    obtain ⟨t', ht', hr', rfl | rfl⟩ := ht.cases_of_removeWsCl hr.symm
    · obtain ⟨o, ho, hrep⟩ := ih ht' hr'.symm
      refine ⟨.delete :: .keep :: o, ?_, by simp [repairAux, hw, isWsCl_sp, hrep]⟩
      rw [wsOps_delete _ _ (ne_sp_of_nonws hw).symm hw isWsCl_sp, wsOps_keep, ho]; rfl
    · obtain ⟨o, ho, hrep⟩ := ih ht' hr'.symm
      refine ⟨.keep :: .keep :: o, ?_, by simp [repairAux, hw, isWsCl_sp, hrep]⟩
      rw [wsOps_keep, wsOps_keep, ho]; rfl

/-- **operations is total on the property's domain and repair inverts it.** -/
theorem ops_total_and_repair {f t : List (List Nat)} (hf : CleanB f = true) (ht : CleanB t = true)
    (hr : removeWsCl f = removeWsCl t) :
    ∃ o, wsOps f t = some o ∧ o.length = f.length ∧ repairCl f o = some t := by
  obtain ⟨o, ho, hrep⟩ := ops_repair_ch (CleanB.cleanCh hf) (CleanB.cleanCh ht) hr
  have hl := wsOps_length f t o ho
  refine ⟨o, ho, hl, ?_⟩
  rw [repairCl, hl, bne_self_eq_false, if_neg Bool.false_ne_true, hrep]

theorem repairAux_nonws (s : List (List Nat)) (ops : List WsOp) (b : Bool) (h : s.length = ops.length) :
    removeWsCl (repairAux s ops b) = removeWsCl s := by
  induction s generalizing ops b with
  | nil => cases ops <;> rfl
  | cons c cs ih =>
    match ops, h with
    | op :: ops, h =>
      have ih := ih ops (isWsCl c) (Nat.succ.inj h)
      rw [repairAux]
      cases hw : isWsCl c
      · rw [removeWsCl_cons_nonws hw, ← ih, hw]
        split
        · rw [removeWsCl_sp_cons, removeWsCl_cons_nonws hw]
        · simp only [Bool.and_false, Bool.false_eq_true, if_false, removeWsCl_cons_nonws hw]
      · rw [removeWsCl_cons_ws hw, ← ih, hw]
        simp only [Bool.not_true, Bool.and_false, Bool.false_and, Bool.false_eq_true, if_false, Bool.and_true]
        split
        · rfl
        · exact removeWsCl_cons_ws hw

/-- repair changes nothing but whitespace, for every text and every operation sequence -/
theorem repair_nonws {s : List (List Nat)} {ops : List WsOp} {r : List (List Nat)}
    (h : repairCl s ops = some r) : removeWsCl r = removeWsCl s := by
  rw [repairCl] at h
  split at h
  · cases h
  · rename_i hl
    cases h
    exact repairAux_nonws s ops false (by simpa using hl)

theorem repairAux_keep (s : List (List Nat)) (b : Bool) : repairAux s (List.replicate s.length .keep) b = s := by
  induction s generalizing b with
  | nil => simp [repairAux]
  | cons c cs ih => simp [List.replicate_succ, repairAux, ih]

/-- an all-Keep sequence is the identity -/
theorem repair_keep (s : List (List Nat)) : repairCl s (List.replicate s.length .keep) = some s := by
  simp [repairCl, repairAux_keep]

/-- a length mismatch is the error value (never a fault) and matching lengths never fail -/
theorem repair_err_iff (s : List (List Nat)) (ops : List WsOp) : repairCl s ops = none ↔ s.length ≠ ops.length := by
  unfold repairCl; split <;> simp_all

/-! non-vacuity -/
example : CleanB [[97], sp, [98], [99]] = true ∧ CleanB [[97], [98], sp, [99]] = true ∧
    removeWsCl [[97], sp, [98], [99]] = removeWsCl [[97], [98], sp, [99]] := by decide +kernel
example : wsOps [[97], sp, [98], [99]] [[97], [98], sp, [99]] = some [.keep, .delete, .keep, .insert] := by decide +kernel

end Tu.C10

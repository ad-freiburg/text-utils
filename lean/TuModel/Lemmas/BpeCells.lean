/-
  BPE, implementation side, the data: the heap (`heapMax` is least in `(mid, fst)`),
  `prevLive` / `nextLive`, the token list `live` of a cell array, and the passage between cell
  indices and token positions (`rank`; `adj_mergeable`, `mergeable_adj`, `live_merge`), proved
  through an explicit decomposition of the array at two adjacent live cells (`Split`, `adj_append`).
-/
import TuModel.Lemmas.ListL
import TuModel.Lemmas.BpeSpec
namespace Tu

theorem find?_reverse_range (p : Nat → Bool) (k : Nat) : ∀ (n : Nat),
    (List.range n).reverse.find? p = some k ↔ k < n ∧ p k = true ∧ ∀ m, k < m → m < n → p m = false
  | 0 => by simp
  | n + 1 => by
    rw [List.range_succ, List.reverse_append, List.reverse_singleton, List.singleton_append,
      List.find?_cons]
    cases hp : p n with
    | true =>
      rw [Option.some.injEq]
      constructor
      · rintro rfl
        exact ⟨Nat.lt_succ_self _, hp, fun m h1 h2 => by omega⟩
      · intro ⟨h1, h2, h3⟩
        false_or_by_contra
        have := h3 n (by omega) (Nat.lt_succ_self _)
        rw [hp] at this; cases this
    | false =>
      rw [find?_reverse_range p k n]
      constructor
      · intro ⟨h1, h2, h3⟩
        refine ⟨by omega, h2, fun m hm1 hm2 => ?_⟩
        by_cases hmn : m = n
        · rw [hmn]; exact hp
        · exact h3 m hm1 (by omega)
      · intro ⟨h1, h2, h3⟩
        have : k ≠ n := fun h => by rw [h, hp] at h2; cases h2
        exact ⟨by omega, h2, fun m hm1 hm2 => h3 m hm1 (by omega)⟩

theorem getD_cut {α : Type} (A R : List α) (x d : α) : (A ++ x :: R).getD A.length d = x :=
  getD_append_add A (x :: R) 0 d

theorem getD_cut_add {α : Type} (A R : List α) (x d : α) (k : Nat) :
    (A ++ x :: R).getD (A.length + (k + 1)) d = R.getD k d :=
  getD_append_add A (x :: R) (k + 1) d

theorem exists_cut2 {α : Type} (d : α) (l : List α) (i j : Nat) (hij : i < j) (hj : j < l.length) :
    ∃ A M B, l = A ++ l.getD i d :: (M ++ l.getD j d :: B) ∧ A.length = i ∧ A.length + (M.length + 1) = j := by
  obtain ⟨P, B, hP, rfl⟩ := exists_cut d l j hj
  obtain ⟨A, M, hA, rfl⟩ := exists_cut d P i hij
  have hi : l.getD A.length d = P.getD A.length d := by rw [hP, getD_append_lt _ _ _ _ hij]
  refine ⟨A, M, B, ?_, rfl, by rw [hA, List.length_append, List.length_cons]⟩
  rw [hi]
  exact hP.trans ((congrArg (· ++ l.getD P.length d :: B) hA).trans (List.append_assoc ..))

theorem set_cut {α : Type} (A R : List α) (x v : α) : (A ++ x :: R).set A.length v = A ++ v :: R := by
  rw [List.set_append_right _ _ (Nat.le_refl _), Nat.sub_self, List.set_cons_zero]

theorem set_cut_add {α : Type} (A R : List α) (x v : α) (k : Nat) :
    (A ++ x :: R).set (A.length + (k + 1)) v = A ++ x :: R.set k v := by
  rw [List.set_append_right _ _ (Nat.le_add_right ..), Nat.add_sub_cancel_left, List.set_cons_succ]

/-- the order of the heap refines the reversed lexicographic order on `(mid, fst)` -/
theorem HEntry.lt_key (a b : HEntry) :
    if a.lt b then b.mid < a.mid ∨ (b.mid = a.mid ∧ b.fst ≤ a.fst)
    else a.mid < b.mid ∨ (a.mid = b.mid ∧ a.fst ≤ b.fst) := by
  by_cases h1 : a.mid = b.mid
  · by_cases h2 : a.fst = b.fst
    · split <;> omega
    · unfold HEntry.lt
      simp only [h1, bne_self_eq_false, Bool.false_eq_true, ↓reduceIte, bne_iff_ne, ne_eq, h2, not_false_eq_true,
        gt_iff_lt, decide_eq_true_eq, true_and]
      split <;> omega
  · unfold HEntry.lt
    simp only [bne_iff_ne, ne_eq, h1, not_false_eq_true, ↓reduceIte, gt_iff_lt, decide_eq_true_eq, false_and]
    split <;> omega

theorem heapMax_spec : ∀ (h : List HEntry),
    match heapMax h with
    | none => h = []
    | some m => m ∈ h ∧ ∀ x ∈ h, m.mid < x.mid ∨ (m.mid = x.mid ∧ m.fst ≤ x.fst)
  | [] => rfl
  | e :: es => by
    have ih := heapMax_spec es
    rw [heapMax]
    cases hm : heapMax es with
    | none =>
      rw [hm] at ih
      subst ih
      exact ⟨List.mem_singleton.mpr rfl, fun x hx => by
        rw [List.mem_singleton.mp hx]; exact Or.inr ⟨rfl, Nat.le_refl _⟩⟩
    | some m =>
      rw [hm] at ih
      have hk := HEntry.lt_key e m
      dsimp only
      by_cases hlt : e.lt m = true
      · rw [if_pos hlt] at hk ⊢
        refine ⟨List.mem_cons_of_mem _ ih.1, fun x hx => ?_⟩
        rcases List.mem_cons.mp hx with rfl | hx
        · exact hk
        · exact ih.2 x hx
      · rw [if_neg hlt] at hk ⊢
        refine ⟨List.mem_cons_self, fun x hx => ?_⟩
        rcases List.mem_cons.mp hx with rfl | hx
        · exact Or.inr ⟨rfl, Nat.le_refl _⟩
        · have := ih.2 x hx; omega

theorem heapPop_spec (h : List HEntry) :
    match heapPop h with
    | none => h = []
    | some (e, h') => e ∈ h ∧ h' = h.erase e ∧ ∀ x ∈ h, e.mid < x.mid ∨ (e.mid = x.mid ∧ e.fst ≤ x.fst) := by
  have := heapMax_spec h
  unfold heapPop
  cases hm : heapMax h with
  | none => rw [hm] at this; exact this
  | some m => rw [hm] at this; exact ⟨this.1, rfl, this.2⟩

/-- adjacent live cells `i < j`: both non-empty, only dead cells in between -/
def Adj (bytes : List (List Nat)) (i j : Nat) : Prop :=
  i < j ∧ bytes.getD i [] ≠ [] ∧ bytes.getD j [] ≠ [] ∧ ∀ k, i < k → k < j → bytes.getD k [] = []

theorem adj_append (A M B : List (List Nat)) (x y : List Nat) :
    Adj (A ++ x :: (M ++ y :: B)) A.length (A.length + (M.length + 1)) ↔ x ≠ [] ∧ y ≠ [] ∧ ∀ b ∈ M, b = [] := by
  have hm : ∀ k, k < M.length → (A ++ x :: (M ++ y :: B)).getD (A.length + (k + 1)) [] = M.getD k [] :=
    fun k hk => by rw [getD_cut_add, getD_append_lt _ _ _ _ hk]
  unfold Adj
  rw [getD_cut, getD_cut_add, getD_cut]
  constructor
  · refine fun ⟨_, h1, h2, h3⟩ => ⟨h1, h2, fun b hb => ?_⟩
    obtain ⟨k, hk, rfl⟩ := List.getElem_of_mem hb
    rw [← getD_eq_getElem _ _ [] hk, ← hm k hk]
    exact h3 _ (by omega) (by omega)
  · refine fun ⟨h1, h2, h3⟩ => ⟨by omega, h1, h2, fun k k1 k2 => ?_⟩
    obtain ⟨k, rfl⟩ : ∃ k', k = A.length + (k' + 1) := ⟨k - A.length - 1, by omega⟩
    rw [hm k (by omega)]
    exact h3 _ (getD_mem M k [] (by omega))

theorem isEmpty_not_false {b : List Nat} : (!b.isEmpty) = false ↔ b = [] := by
  cases b <;> simp

theorem isEmpty_not_true {b : List Nat} : (!b.isEmpty) = true ↔ b ≠ [] := by
  cases b <;> simp

theorem prevLive_eq_some {bytes : List (List Nat)} {i : Nat} (hi : bytes.getD i [] ≠ []) (p : Nat) :
    prevLive bytes i = some p ↔ Adj bytes p i := by
  unfold prevLive Adj
  rw [find?_reverse_range]
  simp only [isEmpty_not_true, isEmpty_not_false]
  exact ⟨fun ⟨a, b, c⟩ => ⟨a, b, hi, c⟩, fun ⟨a, b, _, c⟩ => ⟨a, b, c⟩⟩

/-- the search starts right of a dead cell `j` that a gap separates from the live cell `i` -/
theorem nextLive_eq_some {bytes : List (List Nat)} {i j : Nat} (hi : bytes.getD i [] ≠ [])
    (hj : bytes.getD j [] = []) (hlt : i < j) (hg : ∀ k, i < k → k < j → bytes.getD k [] = []) (n : Nat) :
    nextLive bytes j = some n ↔ Adj bytes i n := by
  unfold nextLive Adj
  have hf : (fun x => x + j + 1) = (fun x => (j + 1) + x) := by funext x; omega
  rw [hf, ← List.range'_eq_map_range, List.find?_range'_eq_some, List.mem_range'_1]
  simp only [isEmpty_not_true, Bool.not_not, List.isEmpty_iff]
  constructor
  · refine fun ⟨h1, h2, h3⟩ => ⟨by omega, hi, h1, fun k k1 k2 => ?_⟩
    by_cases c : k < j
    · exact hg k k1 c
    · by_cases c' : k = j
      · rw [c']; exact hj
      · exact h3 k (by omega) k2
  · intro ⟨a, _, c, d⟩
    have hn : j < n := by
      false_or_by_contra
      by_cases e : n = j
      · rw [e] at c; exact c hj
      · exact c (hg n a (by omega))
    exact ⟨c, ⟨hn, by have := lt_length_of_getD_ne c; omega⟩, fun k k1 k2 => d k (by omega) k2⟩

/-- the token list denoted by a cell array: the non-empty cells in order -/
def live (l : List (List Nat)) : List (List Nat) := l.filter (fun b => !b.isEmpty)

theorem live_nil : live [] = [] := rfl
theorem live_cons_nil (l : List (List Nat)) : live ([] :: l) = live l := by simp [live]
theorem live_cons_ne (b : List Nat) (l : List (List Nat)) (h : b ≠ []) : live (b :: l) = b :: live l := by
  cases b with
  | nil => exact absurd rfl h
  | cons x xs => simp [live]
theorem live_append (a b : List (List Nat)) : live (a ++ b) = live a ++ live b := by simp [live]
theorem live_dead (M : List (List Nat)) (h : ∀ b ∈ M, b = []) : live M = [] :=
  List.filter_eq_nil_iff.mpr fun b hb => by rw [h b hb]; simp
theorem live_ne_nil (l : List (List Nat)) : ∀ b ∈ live l, b ≠ [] := by
  intro b hb
  simp only [live, List.mem_filter] at hb
  exact isEmpty_not_true.mp hb.2

/-- position in the token list of cell `i` -/
def rank (l : List (List Nat)) (i : Nat) : Nat := (live (l.take i)).length

theorem rank_mono (l : List (List Nat)) {i i' : Nat} (h : i ≤ i') : rank l i ≤ rank l i' := by
  unfold rank
  rw [← Nat.min_eq_left h, ← List.take_take]
  exact ((List.take_sublist i (l.take i')).filter _).length_le

/-- explicit decomposition of a cell array at two adjacent live cells -/
def Split (l : List (List Nat)) (A M B : List (List Nat)) (x y : List Nat) : Prop :=
  l = A ++ x :: (M ++ y :: B) ∧ x ≠ [] ∧ y ≠ [] ∧ ∀ b ∈ M, b = []

theorem Split.adj {l A M B x y} (h : Split l A M B x y) : Adj l A.length (A.length + (M.length + 1)) :=
  h.1 ▸ (adj_append ..).mpr h.2

theorem Split.rank_eq {l A M B x y} (h : Split l A M B x y) : rank l A.length = (live A).length := by
  rw [rank, h.1, List.take_left' rfl]

theorem Split.live_eq {l A M B x y} (h : Split l A M B x y) : live l = live A ++ x :: y :: live B := by
  rw [h.1, live_append, live_cons_ne _ _ h.2.1, live_append, live_dead M h.2.2.2, live_cons_ne _ _ h.2.2.1]
  rfl

theorem Split.live_set {l A M B x y} (h : Split l A M B x y) :
    live ((l.set A.length (x ++ y)).set (A.length + (M.length + 1)) []) = mergeAt (live l) (rank l A.length) := by
  rw [h.rank_eq, h.live_eq, mergeAt_append, h.1, set_cut, set_cut_add, set_cut, live_append,
    live_cons_ne _ _ (by simp [h.2.1]), live_append, live_dead M h.2.2.2, live_cons_nil]
  rfl

theorem split_of_pos (l : List (List Nat)) (k : Nat) (h : k + 1 < (live l).length) :
    ∃ A M B x y, Split l A M B x y ∧ (live A).length = k := by
  obtain ⟨L, R, h1, rfl⟩ := exists_cut [] (live l) k (by omega)
  generalize (live l).getD L.length [] = x at h1
  match R, h1 with
  | [], h1 => rw [h1] at h; simp at h
  | y :: R, h1 =>
    have dead : ∀ {M : List (List Nat)}, (∀ b ∈ M, ¬ (!b.isEmpty) = true) → ∀ b ∈ M, b = [] :=
      fun hM b hb => isEmpty_not_false.mp (Bool.not_eq_true _ ▸ hM b hb)
    -- cut `l` where the filter yields `L`, then at the next two cells that pass it
    obtain ⟨l1, l2, rfl, hL, h2⟩ := List.filter_eq_append_iff.mp h1
    obtain ⟨M0, l3, rfl, hM0, hx, h3⟩ := List.filter_eq_cons_iff.mp h2
    obtain ⟨M, B, rfl, hM, hy, _⟩ := List.filter_eq_cons_iff.mp h3
    refine ⟨l1 ++ M0, M, B, x, y, ⟨by simp, isEmpty_not_true.mp hx, isEmpty_not_true.mp hy, dead hM⟩, ?_⟩
    rw [live_append, live_dead M0 (dead hM0), List.append_nil]
    exact congrArg List.length hL

theorem split_of_adj (l : List (List Nat)) (i j : Nat) (h : Adj l i j) :
    ∃ A M B, Split l A M B (l.getD i []) (l.getD j []) ∧ A.length = i ∧ A.length + (M.length + 1) = j := by
  obtain ⟨A, M, B, hl, rfl, rfl⟩ := exists_cut2 [] l _ _ h.1 (lt_length_of_getD_ne h.2.2.1)
  refine ⟨A, M, B, ⟨hl, ?_⟩, rfl, rfl⟩
  generalize l.getD A.length [] = x at hl ⊢
  generalize l.getD (A.length + (M.length + 1)) [] = y at hl ⊢
  subst hl
  exact (adj_append ..).mp h

theorem adj_mergeable {t : MTable} {l : List (List Nat)} {i j m : Nat} (h : Adj l i j)
    (hl : tlookup t (l.getD i [] ++ l.getD j []) = some m) : Mergeable t (live l) (rank l i) m := by
  obtain ⟨A, M, B, hs, rfl, _⟩ := split_of_adj l i j h
  rw [hs.rank_eq, hs.live_eq, mergeable_append]
  exact hl

theorem mergeable_adj {t : MTable} {l : List (List Nat)} {k m : Nat} (h : Mergeable t (live l) k m) :
    ∃ i j, Adj l i j ∧ rank l i = k ∧ tlookup t (l.getD i [] ++ l.getD j []) = some m := by
  obtain ⟨A, M, B, x, y, hs, rfl⟩ := split_of_pos l k h.1
  rw [hs.live_eq, mergeable_append] at h
  exact ⟨_, _, hs.adj, hs.rank_eq, by rw [hs.1, getD_cut, getD_cut_add, getD_cut]; exact h⟩

theorem live_merge {l : List (List Nat)} {i j : Nat} (h : Adj l i j) :
    live ((l.set i (l.getD i [] ++ l.getD j [])).set j []) = mergeAt (live l) (rank l i) := by
  obtain ⟨A, M, B, hs, rfl, rfl⟩ := split_of_adj l i j h
  exact hs.live_set

end Tu

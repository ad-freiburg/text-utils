/-
  C19 — the merge table written by `train_bpe` is what greedy training produces and is well-formed.
  Model: `Tu.greedyTable` (Model/BpeTrain.lean), replayed on the table the code wrote.  Every entry
  is the concatenation of an adjacent pair of positive, maximal frequency in the corpus as
  segmented by the earlier merges; ids are `0..m-1`, `m ≤ n`; training stops early only when no
  pair occurs any more; the table satisfies `wfTable`, the hypothesis of the C02–C04 theorems.
-/
import TuModel.Lemmas.BpeTrainRun
namespace Tu.C19
open Tu

/-- merging a pair only regroups the bytes of a word -/
theorem replacePairInWord_flatten (w : List (List Nat)) (x y : List Nat) :
    (replacePairInWord w x y).flatten = w.flatten := by
  unfold replacePairInWord
  rw [BpeTrainL.replacePairAux_flatten]
  simp

/-- every replayed entry is the concatenation of an adjacent token pair that occurs, with positive
and maximal frequency, in the corpus as segmented by the earlier merges -/
theorem greedyReplay_head (c : Corpus) (e : List Nat) (es : List (List Nat)) (c' : Corpus)
    (h : c' ∈ greedyReplay c (e :: es)) :
    ∃ p, p ∈ allPairs c ∧ p.1 ++ p.2 = e ∧ 0 < pairFreq c p ∧ (∀ q ∈ allPairs c, pairFreq c q ≤ pairFreq c p) ∧
      c' ∈ greedyReplay (applyMerge c p) es :=
  BpeTrainL.greedyReplay_head c e es c' h

/-- a pair listed in `allPairs` really is adjacent in some word, and pairs that are not adjacent
anywhere have frequency 0: the table never contains an entry for a pair that does not occur -/
theorem pairFreq_pos_mem (c : Corpus) (p : List Nat × List Nat) (h : 0 < pairFreq c p) : p ∈ allPairs c :=
  BpeTrainL.pairFreq_pos_mem c p h

theorem mem_allPairs (c : Corpus) (p : List Nat × List Nat) :
    p ∈ allPairs c ↔ ∃ w n, (w, n) ∈ c ∧ p ∈ wordPairs w :=
  BpeTrainL.mem_allPairs c p

/-- what `greedyTable` checks, as propositions -/
theorem greedyTable_iff (words : List (List Nat × Nat)) (n : Nat) (t : MTable) :
    greedyTable words n t = true ↔
      ∃ es, entriesInOrder t = some es ∧ t.length ≤ n ∧ es.Nodup ∧
        ∃ c, c ∈ greedyReplay (initCorpus words) es ∧ (es.length = n ∨ maxPairFreq c = 0) := by
  unfold greedyTable
  cases he : entriesInOrder t with
  | none => simp
  | some es =>
    simp only [Bool.and_eq_true, decide_eq_true_eq, List.any_eq_true, Bool.or_eq_true, beq_iff_eq, Option.some.injEq,
      exists_eq_left', and_assoc]

/-- ids are exactly 0..m-1 and at most the requested number of merges -/
theorem greedyTable_ids (words : List (List Nat × Nat)) (n : Nat) (t : MTable) (h : greedyTable words n t = true) :
    t.length ≤ n ∧ ∀ k, k < t.length → (tbytes t k).isSome = true := by
  obtain ⟨es, he, hn, _, _⟩ := (greedyTable_iff words n t).mp h
  refine ⟨hn, ?_⟩
  intro k hk
  obtain ⟨hlen, hb⟩ := BpeTrainL.entriesInOrder_spec t es he
  rw [hb k hk, List.getElem?_eq_getElem (by omega)]
  rfl

/-- each id `k < m` is the id of exactly one entry, and no other ids occur -/
theorem greedyTable_ids_exact (words : List (List Nat × Nat)) (n : Nat) (t : MTable) (h : greedyTable words n t = true) :
    (∀ k, k < t.length → (t.filter (fun e => e.2 == k)).length = 1) ∧ ∀ e ∈ t, e.2 < t.length := by
  obtain ⟨es, he, _⟩ := (greedyTable_iff words n t).mp h
  exact ⟨BpeTrainL.table_ids_once t es he, id_lt_of_once (BpeTrainL.table_ids_once t es he)⟩

/-- training stops early only when the corpus is exhausted -/
theorem greedyTable_stops (words : List (List Nat × Nat)) (n : Nat) (t : MTable) (h : greedyTable words n t = true) :
    t.length = n ∨ ∃ es c, entriesInOrder t = some es ∧ c ∈ greedyReplay (initCorpus words) es ∧ maxPairFreq c = 0 := by
  obtain ⟨es, he, _, _, c, hc, h3⟩ := (greedyTable_iff words n t).mp h
  obtain ⟨hlen, _⟩ := BpeTrainL.entriesInOrder_spec t es he
  rcases h3 with h3 | h3
  · left; omega
  · right; exact ⟨es, c, he, hc, h3⟩

/-- every entry of a trained table, spelled out: entry `k` is `l ++ r` for two tokens that are single
bytes or entries with smaller ids -/
theorem greedyTable_entry (words : List (List Nat × Nat)) (n : Nat) (t : MTable)
    (hb : ∀ w ∈ words, ∀ b ∈ w.1, b < 256) (h : greedyTable words n t = true) :
    ∀ e ∈ t, (∀ b ∈ e.1, b < 256) ∧ ∃ l r, l ++ r = e.1 ∧ l ≠ [] ∧ r ≠ [] ∧
      isTokenBefore t e.2 l = true ∧ isTokenBefore t e.2 r = true := by
  obtain ⟨es, he, _, hnd, c, hc, _⟩ := (greedyTable_iff words n t).mp h
  obtain ⟨hlen, _⟩ := BpeTrainL.entriesInOrder_spec t es he
  intro e hem
  have hent := BpeTrainL.table_entry t es he e hem
  obtain ⟨hk1, hk2⟩ := List.getElem?_eq_some_iff.mp hent
  obtain ⟨l, r, hlr, gl, gr, al, ar⟩ :=
    BpeTrainL.replay_inv es (initCorpus words) [] c (BpeTrainL.initCorpus_inv words hb) hc e.2 hk1
  rw [hk2] at hlr
  have key : ∀ tok, BpeTrainL.Good ([] ++ es.take e.2) tok → BpeTrainL.AllB tok → isTokenBefore t e.2 tok = true := by
    intro tok g a
    rcases g with ⟨b, hb256, rfl⟩ | g
    · simp [isTokenBefore, hb256]
    · rw [List.nil_append] at g
      obtain ⟨j, hj⟩ := List.getElem?_of_mem g
      have hjlt : j < e.2 := by
        have := (List.getElem?_eq_some_iff.mp hj).1
        rw [List.length_take] at this
        omega
      rw [List.getElem?_take_of_lt hjlt] at hj
      have hlook := BpeTrainL.table_tlookup t es he hnd j tok hj
      unfold isTokenBefore
      split
      · rename_i x
        exact decide_eq_true (a.2 x (by simp))
      · rw [hlook]; exact decide_eq_true hjlt
  refine ⟨?_, l, r, hlr, al.1, ar.1, key l gl al, key r gr ar⟩
  rw [← hlr]
  exact (al.append ar).2

/-- **the written table is well-formed** (so a tokenizer built from it satisfies the C02–C04 theorems) -/
theorem train_WF (words : List (List Nat × Nat)) (n : Nat) (t : MTable) (hb : ∀ w ∈ words, ∀ b ∈ w.1, b < 256)
    (h : greedyTable words n t = true) : wfTable t = true := by
  obtain ⟨es, he, _, hnd, _⟩ := (greedyTable_iff words n t).mp h
  have honce := BpeTrainL.table_ids_once t es he
  have hiu := ids_unique_of_once honce
  have hku := BpeTrainL.table_keys_unique t es he hnd
  refine wfTable_iff.2 ⟨honce, fun e hem => ?_, fun e hem => ?_⟩
  · -- an entry has the key of `e` iff it has its id, and ids occur once
    have : t.filter (fun e' => e'.1 == e.1) = t.filter (fun e' => e'.2 == e.2) :=
      List.filter_congr fun e' hem' => Bool.eq_iff_iff.mpr
        ⟨fun hk => by rw [hku e' hem' e hem (eq_of_beq hk)]; exact beq_self_eq_true _,
         fun hk => by rw [hiu e' hem' e hem (eq_of_beq hk)]; exact beq_self_eq_true _⟩
    rw [this, honce e.2 (id_lt_of_once honce e hem)]
  · obtain ⟨hbytes, l, r, hlr, hl, hr, tl, tr⟩ := greedyTable_entry words n t hb h e hem
    exact ⟨hbytes, (l, r), by rw [← hlr]; exact mem_splitsOf l r hl hr, tl, tr⟩

/-! ### non-vacuity -/

example : greedyTable [([97,98],2),([32,97,98],1)] 4 [([97,98],0),([32,97,98],1)] = true := by decide +kernel
example : greedyTable [([97,98],2),([32,97,98],1)] 1 [([97,98],0)] = true := by decide +kernel
/-- the second merge must be the (only) remaining pair -/
example : greedyTable [([97,98],2),([32,97,98],1)] 4 [([97,98],0),([32,97],1)] = false := by decide +kernel
/-- stopping early while a pair still occurs is rejected -/
example : greedyTable [([97,98],2),([32,97,98],1)] 4 [([97,98],0)] = false := by decide +kernel
example : wfTable [([97,98],0),([32,97,98],1)] = true := by decide +kernel
example : replacePairInWord [[97],[98],[97],[98],[99]] [97] [98] = [[97,98],[97,98],[99]] := by decide +kernel
example : [[97,98],[32,97,98]] ∈ (greedyReplay (initCorpus [([97,98],2),([32,97,98],1)]) [[97,98],[32,97,98]]).map (fun c => c.map (·.1.flatten)) := by decide +kernel
/-- the hypotheses of `train_WF` are satisfiable -/
example : wfTable [([97,98],0),([32,97,98],1)] = true :=
  train_WF [([97,98],2),([32,97,98],1)] 4 _ (by decide +kernel) (by decide +kernel)

/-! ### the code that exists: the incremental bookkeeping of `update_stats` refines the recount

Model: `Tu.bytePairStats`, `Tu.replacePair`, `Tu.updateStats`, `Tu.trainStep`, `Tu.trainRun` (Model/BpeTrainInc.lean), a
line-by-line model of `byte_pair_stats`, `replace_pair`, `update_stats` and the merge loop of `train_bpe`. -/

/-- the statistics describe the corpus exactly (map-style): no duplicate keys, word indices in range, and for every
pair `q` the stored frequency is `pairFreq c q` and the counter of word `i` is its number of occurrences in word `i` -/
abbrev StatsOk (c : Corpus) (st : Stats) : Prop := BpeTrainIncL.StatsOk c st

/-- well-formedness of the trainer's vocabulary: every token is non-empty, and segmentation is unique (two runs of
consecutive tokens, anywhere in the corpus, that spell the same bytes are the same token sequence) -/
abbrev CorpusWf (c : Corpus) : Prop := BpeTrainIncL.CorpusWf c

theorem StatsOk_unfold (c : Corpus) (st : Stats) : StatsOk c st ↔
    (((st.map (·.1)).Nodup ∧ ∀ q info, alGet st q = some info → (info.2.map (·.1)).Nodup ∧ ∀ i ∈ info.2.map (·.1), i < c.length) ∧
      ∀ q, BpeTrainIncL.freqOf st q = pairFreq c q ∧
        ∀ i, BpeTrainIncL.occOf st q i = wordPairCount (c.getD i ([], 0)).1 q) := Iff.rfl

theorem CorpusWf_unfold (c : Corpus) : CorpusWf c ↔
    ((∀ e ∈ c, ∀ t ∈ e.1, t ≠ []) ∧
      ∀ e1 ∈ c, ∀ e2 ∈ c, ∀ R1 R2 : List (List Nat), R1 <:+: e1.1 → R2 <:+: e2.1 → R1.flatten = R2.flatten → R1 = R2) := Iff.rfl

/-- `CorpusWf` is decidable: the executable check `corpusWfB` (Model/BpeTrainInc.lean) decides it -/
theorem corpusWfB_iff (c : Corpus) : corpusWfB c = true ↔ CorpusWf c := BpeTrainIncL.corpusWfB_iff c

/-- the initial statistics (`byte_pair_stats`) are exact -/
theorem bytePairStats_exact (c : Corpus) : StatsOk c (bytePairStats c) := by
  have := BpeTrainIncL.bytePairStatsFrom_ok c [] [] BpeTrainIncL.StatsOk_empty
  simp only [List.nil_append, List.length_nil] at this
  exact this

/-- the byte-level vocabulary is well-formed -/
theorem corpusWf_init (words : List (List Nat × Nat)) : CorpusWf (initCorpus words) := BpeTrainIncL.CorpusWf_init words

/-- well-formedness is preserved by a merge -/
theorem corpusWf_applyMerge (c : Corpus) (p : List Nat × List Nat) (h : CorpusWf c) (hp : 0 < pairFreq c p) :
    CorpusWf (applyMerge c p) := BpeTrainIncL.CorpusWf.applyMerge h p hp

/-- in a well-formed vocabulary the merged token of a pair that occurs is new -/
theorem corpusWf_fresh (c : Corpus) (p : List Nat × List Nat) (h : CorpusWf c) (hp : 0 < pairFreq c p) :
    ∀ e ∈ c, (p.1 ++ p.2) ∉ e.1 := h.2.fresh p hp

/-- the single-word lemma behind `update_stats`: on a word `w` that does not contain the merged token, the old-word loop
performs the decrements `decsN`, the new-word loop the increments `incsN`, no decrement saturates, and for every pair
`q` other than the merged one the pair counts of the re-segmented word are the old counts minus the decrements plus the
increments -/
theorem updateStats_word (x y : List Nat) (w : List (List Nat)) (idx f : Nat) (st : Stats) (hfresh : (x ++ y) ∉ w) :
    oldLoop x y w idx f (w.length + 1) 0 st = BpeTrainIncL.applyDecs idx f (BpeTrainIncL.decsN x y none w) st ∧
    (∀ st1, newLoop (x ++ y) (BpeTrainIncL.rep x y w) idx f ((BpeTrainIncL.rep x y w).length + 1) 0 st1 =
      BpeTrainIncL.applyIncs idx f (BpeTrainIncL.incsN (x ++ y) none (BpeTrainIncL.rep x y w)) st1) ∧
    (y ≠ [] → replacePairInWord w x y = BpeTrainIncL.rep x y w) ∧
    ∀ q, q ≠ (x, y) →
      BpeTrainIncL.cnt q (BpeTrainIncL.decsN x y none w) ≤ wordPairCount w q ∧
      wordPairCount w q + BpeTrainIncL.cnt q (BpeTrainIncL.incsN (x ++ y) none (BpeTrainIncL.rep x y w)) =
        wordPairCount (BpeTrainIncL.rep x y w) q + BpeTrainIncL.cnt q (BpeTrainIncL.decsN x y none w) := by
  refine ⟨BpeTrainIncL.oldLoop_top x y idx f w st, fun st1 => BpeTrainIncL.newLoop_top _ idx f _ st1,
    fun hy => BpeTrainIncL.replacePairInWord_eq_rep w x y hy, ?_⟩
  intro q hq
  exact ⟨BpeTrainIncL.decs_le x y q w none, BpeTrainIncL.count_balance x y q hq w none hfresh⟩

/-- **one merge step**: if the statistics are exact and the pair occurs, the incremental update succeeds (no `Err`, no
panic), the vocabulary is the corpus re-segmented with the pair (skipping the words whose counter is 0 loses nothing),
and the updated statistics are exact again -/
theorem trainStep_exact (c : Corpus) (st : Stats) (p : List Nat × List Nat) (h : StatsOk c st) (hp : 0 < pairFreq c p)
    (hwf : CorpusWf c) :
    ∃ st', trainStep (c, st) p = some (applyMerge c p, st') ∧ StatsOk (applyMerge c p) st' :=
  BpeTrainIncL.trainStep_ok c st p h hp hwf.1 (hwf.2.fresh p hp)

/-- `max_byte_pair` on exact statistics: `p` can be returned iff it has maximal positive recounted frequency, and `None`
is returned iff no pair occurs any more -/
theorem maxBytePair_exact (c : Corpus) (st : Stats) (h : StatsOk c st) :
    (∀ p, isMaxBytePair st p = true ↔ (0 < pairFreq c p ∧ pairFreq c p = maxPairFreq c)) ∧
    (noBytePair st = true ↔ maxPairFreq c = 0) :=
  ⟨fun p => BpeTrainIncL.isMaxBytePair_iff h p, BpeTrainIncL.noBytePair_iff h⟩

/-- **the loop is a greedy trainer**: started on the byte-level vocabulary with `byte_pair_stats`, the incremental loop
can make exactly the choice sequences `ps` that are greedy for the recounted corpus (every chosen pair has maximal
positive `pairFreq` in the corpus re-segmented by the earlier choices); on them it never fails, its vocabulary is
`corpusAfter`, its statistics are exact (`statsExact`), the sequence of merged tokens is accepted by the recount-based
replay `greedyReplay`, and it stops (`max_byte_pair = None`) exactly when no pair occurs any more -/
theorem trainLoop_greedy (words : List (List Nat × Nat)) (ps : List (List Nat × List Nat)) :
    ((trainRun (initCorpus words, bytePairStats (initCorpus words)) ps).isSome = true ↔
      BpeTrainIncL.greedyChoices (initCorpus words) ps) ∧
    ∀ s', trainRun (initCorpus words, bytePairStats (initCorpus words)) ps = some s' →
      s'.1 = corpusAfter (initCorpus words) ps ∧ StatsOk s'.1 s'.2 ∧ statsExact s'.1 s'.2 = true ∧
      s'.1 ∈ greedyReplay (initCorpus words) (ps.map (fun p => p.1 ++ p.2)) ∧
      (noBytePair s'.2 = true ↔ maxPairFreq s'.1 = 0) := by
  obtain ⟨h1, h2⟩ := BpeTrainIncL.trainRun_greedy (bytePairStats_exact _) (corpusWf_init words) ps
  refine ⟨h1, fun s' hs => ?_⟩
  obtain ⟨g1, g2, _, g4, g5, g6⟩ := h2 s' hs
  exact ⟨g1, g2, g4, g5, g6⟩

/-- the same from any state with exact statistics and a well-formed vocabulary -/
theorem trainLoop_greedy_from (c : Corpus) (st : Stats) (h : StatsOk c st) (hwf : CorpusWf c) (ps : List (List Nat × List Nat)) :
    ((trainRun (c, st) ps).isSome = true ↔ BpeTrainIncL.greedyChoices c ps) ∧
    ∀ s', trainRun (c, st) ps = some s' → s'.1 = corpusAfter c ps ∧ StatsOk s'.1 s'.2 ∧ CorpusWf s'.1 :=
  ⟨(BpeTrainIncL.trainRun_greedy h hwf ps).1, fun s' hs =>
    have ⟨g1, g2, g3, _⟩ := (BpeTrainIncL.trainRun_greedy h hwf ps).2 s' hs
    ⟨g1, g2, g3⟩⟩

/-- the observable trace of a run of the model (format of the hook `verif_train_steps`) passes the driver's replay
check `stepsReplay` -/
theorem trainTrace_accepted : ∀ (ps : List (List Nat × List Nat)) (c : Corpus) (st : Stats) (k : Nat), StatsOk c st → CorpusWf c →
    ∀ tr, trainTrace (c, st) ps = some tr → stepsReplay c tr k = none := by
  intro ps
  induction ps with
  | nil => intro c st k _ _ tr h; cases h; rfl
  | cons p ps ih =>
    intro c st k h hwf tr htr
    rw [trainTrace] at htr
    split at htr
    · rename_i hmax
      have hg := (BpeTrainIncL.isMaxBytePair_iff h p).mp hmax
      obtain ⟨st', hstep, hok⟩ := trainStep_exact c st p h hg.1 hwf
      rw [hstep] at htr
      obtain ⟨t, ht, rfl⟩ := Option.map_eq_some_iff.mp htr
      rw [stepsReplay, if_neg (by rw [decide_eq_true hg.1, beq_iff_eq.mpr hg.2]; decide), if_neg (by simp),
        if_neg (by simp [BpeTrainIncL.StatsOk.statsExact hok])]
      exact ih _ _ _ hok (corpusWf_applyMerge c p hwf hg.1) t ht
    · cases htr

/-- the merged tokens of a run of the loop are pairwise distinct: `merge_ops.insert(pair.merge(), merge_idx)` never
overwrites an entry -/
theorem trainLoop_nodup (words : List (List Nat × Nat)) (ps : List (List Nat × List Nat))
    (h : (trainRun (initCorpus words, bytePairStats (initCorpus words)) ps).isSome = true) :
    (ps.map (fun p => p.1 ++ p.2)).Nodup :=
  BpeTrainIncL.greedy_nodup ps [] (initCorpus words) (BpeTrainIncL.SegInv_init words) (corpusWf_init words)
    ((trainLoop_greedy words ps).1.mp h)

/-- **the incremental loop writes a greedy table**: if the loop makes the choices `ps` and stops after `n` merges or
because `max_byte_pair` returns `None`, then every table whose entries in id order are the merged tokens is accepted
by the recount-based relation `greedyTable` (and hence, by `train_WF`, is well-formed) -/
theorem trainLoop_table (words : List (List Nat × Nat)) (ps : List (List Nat × List Nat)) (n : Nat) (t : MTable)
    (s' : Corpus × Stats) (hrun : trainRun (initCorpus words, bytePairStats (initCorpus words)) ps = some s')
    (ht : entriesInOrder t = some (ps.map (fun p => p.1 ++ p.2))) (hn : ps.length ≤ n)
    (hstop : ps.length = n ∨ noBytePair s'.2 = true) : greedyTable words n t = true := by
  obtain ⟨g1, _, _, g4, g5⟩ := (trainLoop_greedy words ps).2 s' hrun
  have hnd := trainLoop_nodup words ps (by rw [hrun]; rfl)
  have hlen := (BpeTrainL.entriesInOrder_spec t _ ht).1
  rw [List.length_map] at hlen
  refine (greedyTable_iff words n t).mpr ⟨_, ht, by omega, hnd, s'.1, g4, ?_⟩
  rw [List.length_map]
  exact hstop.imp_right g5.mp

/-! non-vacuity, and necessity of the well-formedness hypothesis -/

example : (trainRun (initCorpus [([97,98,97,98,97],2),([97,97,97],1)], bytePairStats (initCorpus [([97,98,97,98,97],2),([97,97,97],1)]))
    [([97],[98]), ([97,98],[97,98])] ==
  some ([([[97,98,97,98],[97]],2),([[97],[97],[97]],1)],
    [(([97], [98]), 0, [(0, 0)]), (([98], [97]), 0, [(0, 0)]), (([97], [97]), 2, [(1, 2)]),
     (([97, 98], [97, 98]), 0, [(0, 0)]), (([97, 98], [97]), 0, [(0, 0)]), (([97, 98, 97, 98], [97]), 2, [(0, 1)])])) = true := by decide +kernel

/-- `update_stats` relies on the merged token being new: on a (unreachable) vocabulary that already contains the token
`[1,2,3]` next to the adjacent pair `([1],[2,3])`, the second loop counts the pair `([1,2,3],[4])` twice -/
example : (trainStep ([([[1,2,3],[4],[1],[2,3]], 1)], bytePairStats [([[1,2,3],[4],[1],[2,3]], 1)]) ([1],[2,3])).map
    (fun s => (s.1 == applyMerge [([[1,2,3],[4],[1],[2,3]], 1)] ([1],[2,3]), statsExact s.1 s.2)) = some (true, false) := by decide +kernel

/-- that vocabulary is indeed not well-formed (`[1,2,3]` and `[1],[2,3]` spell the same bytes) -/
example : corpusWfB [([[1,2,3],[4],[1],[2,3]], 1)] = false := by decide +kernel
/-- a reachable vocabulary passes the check: the byte-level one is well-formed and a merge keeps it so -/
example : corpusWfB (applyMerge (initCorpus [([97,98,97,98,97],2),([97,97,97],1)]) ([97],[98])) = true :=
  (corpusWfB_iff _).mpr (.applyMerge (BpeTrainIncL.CorpusWf_init _) _ (by decide +kernel))

end Tu.C19

/-
  UTF-8: `validUtf8` by class of the lead byte, and `singleCp` as the decoder of one code point.
  `singleCp (utf8 c) = some c` for every scalar value is the one place where the arithmetic of the
  encoding is done; that encodings are bytes and are accepted by `validUtf8` follows from what
  `singleCp` accepts.
-/
import TuModel.Model.CharTok
namespace Tu

theorem isCont_iff {b : Nat} : isCont b = true ↔ 0x80 ≤ b ∧ b ≤ 0xBF := by
  simp only [isCont, Bool.and_eq_true, decide_eq_true_eq]

theorem isCont_mod (n : Nat) : isCont (0x80 + n % 64) = true := by
  rw [isCont_iff]; omega

/-- the defining equation, stated once: unfolding `validUtf8` at every use is slow -/
theorem validUtf8_cons (b : Nat) (rest : List Nat) : validUtf8 (b :: rest) =
    (if b < 0x80 then validUtf8 rest
    else if 0xC2 ≤ b && b ≤ 0xDF then
      match rest with
      | c :: r => isCont c && validUtf8 r
      | _ => false
    else if 0xE0 ≤ b && b ≤ 0xEF then
      match rest with
      | c :: d :: r =>
        isCont c && isCont d &&
          (if b == 0xE0 then 0xA0 ≤ c else if b == 0xED then c ≤ 0x9F else true) && validUtf8 r
      | _ => false
    else if 0xF0 ≤ b && b ≤ 0xF4 then
      match rest with
      | c :: d :: e :: r =>
        isCont c && isCont d && isCont e &&
          (if b == 0xF0 then 0x90 ≤ c else if b == 0xF4 then c ≤ 0x8F else true) && validUtf8 r
      | _ => false
    else false) := by
  conv => lhs; unfold validUtf8
  rfl

theorem validUtf8_one {a : Nat} {r : List Nat} (h : a < 0x80) : validUtf8 (a :: r) = validUtf8 r := by
  rw [validUtf8_cons, if_pos h]

theorem validUtf8_two {a b : Nat} {r : List Nat} (h1 : 0xC2 ≤ a) (h2 : a ≤ 0xDF) :
    validUtf8 (a :: b :: r) = (isCont b && validUtf8 r) := by
  have h0 : ¬ a < 0x80 := by omega
  rw [validUtf8_cons, if_neg h0, if_pos (by simp only [h1, h2, decide_true, Bool.and_self])]

theorem validUtf8_three {a b c : Nat} {r : List Nat} (h1 : 0xE0 ≤ a) (h2 : a ≤ 0xEF) :
    validUtf8 (a :: b :: c :: r) = (isCont b && isCont c &&
      (if a == 0xE0 then 0xA0 ≤ b else if a == 0xED then b ≤ 0x9F else true) && validUtf8 r) := by
  have h0 : ¬ a < 0x80 := by omega
  have h0' : ¬ a ≤ 0xDF := by omega
  rw [validUtf8_cons, if_neg h0,
    if_neg (by simp only [h0', decide_false, Bool.and_false, Bool.false_eq_true, not_false_eq_true]),
    if_pos (by simp only [h1, h2, decide_true, Bool.and_self])]

theorem validUtf8_four {a b c d : Nat} {r : List Nat} (h1 : 0xF0 ≤ a) (h2 : a ≤ 0xF4) :
    validUtf8 (a :: b :: c :: d :: r) = (isCont b && isCont c && isCont d &&
      (if a == 0xF0 then 0x90 ≤ b else if a == 0xF4 then b ≤ 0x8F else true) && validUtf8 r) := by
  have h0 : ¬ a < 0x80 := by omega
  have h0' : ¬ a ≤ 0xDF := by omega
  have h0'' : ¬ a ≤ 0xEF := by omega
  rw [validUtf8_cons, if_neg h0,
    if_neg (by simp only [h0', decide_false, Bool.and_false, Bool.false_eq_true, not_false_eq_true]),
    if_neg (by simp only [h0'', decide_false, Bool.and_false, Bool.false_eq_true, not_false_eq_true]),
    if_pos (by simp only [h1, h2, decide_true, Bool.and_self])]

/-- the condition on the second byte: no overlong form, no surrogate, nothing above U+10FFFF -/
theorem second_ok {a b lo hi p q : Nat} (h0 : a = lo → p ≤ b) (h1 : a = hi → b ≤ q) :
    (if a == lo then decide (p ≤ b) else if a == hi then decide (b ≤ q) else true) = true := by
  split
  next h => exact decide_eq_true (h0 (eq_of_beq h))
  split
  next h => exact decide_eq_true (h1 (eq_of_beq h))
  rfl

theorem of_singleCp {bs : List Nat} {c : Nat} (h : singleCp bs = some c) :
    (∀ r, validUtf8 (bs ++ r) = validUtf8 r) ∧ ∀ x ∈ bs, x < 256 := by
  unfold singleCp at h
  split at h
  next a =>
    split at h
    next ha => exact ⟨fun r => validUtf8_one ha, fun x hx => by rw [List.mem_singleton] at hx; omega⟩
    next => cases h
  next a b =>
    split at h
    next hc =>
      simp only [Bool.and_eq_true, decide_eq_true_eq] at hc
      refine ⟨fun r => ?_, fun x hx => ?_⟩
      · simp only [List.cons_append, List.nil_append, validUtf8_two hc.1.1 hc.1.2, hc.2, Bool.true_and]
      · simp only [isCont_iff, List.mem_cons, List.not_mem_nil, or_false] at hc hx; omega
    next => cases h
  next a b d =>
    split at h
    next hc =>
      simp only [Bool.and_eq_true, decide_eq_true_eq] at hc
      have hv := hc.2
      rw [validUtf8_three hc.1.1 hc.1.2, Bool.and_eq_true] at hv
      refine ⟨fun r => ?_, fun x hx => ?_⟩
      · simp only [List.cons_append, List.nil_append, validUtf8_three hc.1.1 hc.1.2, hv.1, Bool.true_and]
      · simp only [Bool.and_eq_true, isCont_iff, List.mem_cons, List.not_mem_nil, or_false] at hv hx; omega
    next => cases h
  next a b d e =>
    split at h
    next hc =>
      simp only [Bool.and_eq_true, decide_eq_true_eq] at hc
      have hv := hc.2
      rw [validUtf8_four hc.1.1 hc.1.2, Bool.and_eq_true] at hv
      refine ⟨fun r => ?_, fun x hx => ?_⟩
      · simp only [List.cons_append, List.nil_append, validUtf8_four hc.1.1 hc.1.2, hv.1, Bool.true_and]
      · simp only [Bool.and_eq_true, isCont_iff, List.mem_cons, List.not_mem_nil, or_false] at hv hx; omega
    next => cases h
  next => cases h

theorem horner3 {q x y z c : Nat} (h1 : x * 64 + y = q) (h2 : q * 64 + z = c) :
    x * 4096 + y * 64 + z = c := by
  rw [← h2, ← h1, Nat.add_mul, Nat.mul_assoc]

theorem horner4 {q x y z w c : Nat} (h1 : x * 4096 + y * 64 + z = q) (h2 : q * 64 + w = c) :
    x * 262144 + y * 4096 + z * 64 + w = c := by
  rw [← h2, ← h1, Nat.add_mul, Nat.add_mul, Nat.mul_assoc, Nat.mul_assoc]

theorem digits3 (c : Nat) : c / 4096 * 4096 + c / 64 % 64 * 64 + c % 64 = c :=
  horner3 (by have := Nat.div_add_mod' (c / 64) 64; rwa [Nat.div_div_eq_div_mul] at this)
    (Nat.div_add_mod' c 64)

theorem digits4 (c : Nat) : c / 262144 * 262144 + c / 4096 % 64 * 4096 + c / 64 % 64 * 64 + c % 64 = c :=
  horner4 (by have := digits3 (c / 64); rwa [Nat.div_div_eq_div_mul, Nat.div_div_eq_div_mul] at this)
    (Nat.div_add_mod' c 64)

theorem singleCp_utf8 (c : Nat) (hc : isScalar c = true) : singleCp (utf8 c) = some c := by
  simp only [isScalar, Bool.or_eq_true, Bool.and_eq_true, decide_eq_true_eq] at hc
  unfold utf8
  split
  next h1 => exact if_pos h1
  split
  next h1 h2 =>
    have hl : 0xC2 ≤ 0xC0 + c / 64 ∧ 0xC0 + c / 64 ≤ 0xDF := by omega
    simp only [singleCp, hl, isCont_mod, decide_true, Bool.and_self, if_true, Nat.add_sub_cancel_left]
    exact congrArg some (Nat.div_add_mod' c 64)
  split
  next h1 h2 h3 =>
    -- a lead byte `E0` means `c < 0x1000`: then `c ≥ 0x800` excludes the overlong forms; `ED` means
    -- `0xD000 ≤ c`, and the surrogates are no scalar values
    have hl : 0xE0 ≤ 0xE0 + c / 4096 ∧ 0xE0 + c / 4096 ≤ 0xEF ∧
        (0xE0 + c / 4096 = 0xE0 → 0xA0 ≤ 0x80 + c / 64 % 64) ∧
        (0xE0 + c / 4096 = 0xED → 0x80 + c / 64 % 64 ≤ 0x9F) := by omega
    have hv : validUtf8 [0xE0 + c / 4096, 0x80 + c / 64 % 64, 0x80 + c % 64] = true := by
      rw [validUtf8_three hl.1 hl.2.1, isCont_mod, isCont_mod, second_ok hl.2.2.1 hl.2.2.2]; rfl
    simp only [singleCp, hl, hv, decide_true, Bool.and_self, if_true, Nat.add_sub_cancel_left]
    exact congrArg some (digits3 c)
  next h1 h2 h3 =>
    have hl : 0xF0 ≤ 0xF0 + c / 262144 ∧ 0xF0 + c / 262144 ≤ 0xF4 ∧
        (0xF0 + c / 262144 = 0xF0 → 0x90 ≤ 0x80 + c / 4096 % 64) ∧
        (0xF0 + c / 262144 = 0xF4 → 0x80 + c / 4096 % 64 ≤ 0x8F) := by omega
    have hv : validUtf8 [0xF0 + c / 262144, 0x80 + c / 4096 % 64, 0x80 + c / 64 % 64, 0x80 + c % 64] = true := by
      rw [validUtf8_four hl.1 hl.2.1, isCont_mod, isCont_mod, isCont_mod, second_ok hl.2.2.1 hl.2.2.2]; rfl
    simp only [singleCp, hl, hv, decide_true, Bool.and_self, if_true, Nat.add_sub_cancel_left]
    exact congrArg some (digits4 c)

theorem validUtf8_utf8_append (c : Nat) (hc : isScalar c = true) (rest : List Nat) :
    validUtf8 (utf8 c ++ rest) = validUtf8 rest :=
  (of_singleCp (singleCp_utf8 c hc)).1 rest

end Tu

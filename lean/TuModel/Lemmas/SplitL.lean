import TuModel.Model.Bpe
namespace Tu

theorem dropWhile_eq_nil_iff {α : Type} (p : α → Bool) :
    ∀ (l : List α), l.dropWhile p = [] ↔ ∀ c ∈ l, p c = true
  | [] => by simp
  | a :: t => by
    by_cases ha : p a = true
    · rw [List.dropWhile_cons_of_pos ha, dropWhile_eq_nil_iff p t, List.forall_mem_cons]
      exact (and_iff_right ha).symm
    · rw [List.dropWhile_cons_of_neg ha]
      exact ⟨nofun, fun h => absurd (h a List.mem_cons_self) ha⟩

def dropTrailWs (s : List Nat) : List Nat := (s.reverse.dropWhile isWsCp).reverse

theorem mem_of_mem_dropTrailWs (s : List Nat) (c : Nat) (h : c ∈ dropTrailWs s) : c ∈ s :=
  List.mem_reverse.1 ((List.dropWhile_sublist _).subset (List.mem_reverse.1 h))

theorem dropTrailWs_of_all_ws (s : List Nat) (h : ∀ c ∈ s, isWsCp c = true) :
    dropTrailWs s = [] := by
  unfold dropTrailWs
  rw [List.reverse_eq_nil_iff]
  exact (dropWhile_eq_nil_iff _ _).2 fun c hc => h c (List.mem_reverse.mp hc)

theorem dropTrailWs_append (x y : List Nat) :
    dropTrailWs (x ++ y) = if (dropTrailWs y).isEmpty then dropTrailWs x else x ++ dropTrailWs y := by
  unfold dropTrailWs
  rw [List.reverse_append, List.dropWhile_append]
  by_cases h : (List.dropWhile isWsCp y.reverse).isEmpty = true
  · simp [h]
  · simp [h]

theorem dropTrailWs_snoc (x : List Nat) (a : Nat) (ha : isWsCp a = false) : dropTrailWs (x ++ [a]) = x ++ [a] := by
  unfold dropTrailWs
  rw [List.reverse_append]
  simp [ha]

theorem dropTrailWs_of_last (x : List Nat) (hne : x ≠ []) (hl : isWsCp (x.getLast hne) = false) : dropTrailWs x = x := by
  rw [← List.dropLast_concat_getLast hne]
  exact dropTrailWs_snoc _ _ hl

theorem dropTrailWs_append_of_last (x y : List Nat) (hne : x ≠ [])
    (hl : isWsCp (x.getLast hne) = false) :
    dropTrailWs (x ++ y) = x ++ dropTrailWs y := by
  rw [dropTrailWs_append]
  split
  next h => rw [dropTrailWs_of_last x hne hl, List.isEmpty_iff.mp h, List.append_nil]
  next => rfl

theorem dropWhile_ws_eq_nil_of_word_nil (s : List Nat)
    (h : (s.dropWhile isWsCp).takeWhile (fun c => !isWsCp c) = []) :
    s.dropWhile isWsCp = [] := by
  cases hr : s.dropWhile isWsCp with
  | nil => rfl
  | cons a t =>
    exfalso
    have hne : s.dropWhile isWsCp ≠ [] := by rw [hr]; exact List.cons_ne_nil _ _
    have ha := List.head_dropWhile_not isWsCp hne
    rw [hr] at h
    simp only [hr, List.head_cons] at ha
    simp [ha] at h

theorem splitWordsAux_flatten :
    ∀ (fuel : Nat) (s : List Nat), s.length < fuel →
      (splitWordsAux fuel s).flatten = dropTrailWs s := by
  intro fuel
  induction fuel with
  | zero => intro s h; omega
  | succ fuel ih =>
    intro s hlen
    have hs : s.takeWhile isWsCp ++ s.dropWhile isWsCp = s := List.takeWhile_append_dropWhile
    have hrest : (s.dropWhile isWsCp).takeWhile (fun c => !isWsCp c) ++
        (s.dropWhile isWsCp).dropWhile (fun c => !isWsCp c) = s.dropWhile isWsCp :=
      List.takeWhile_append_dropWhile
    unfold splitWordsAux
    simp only []
    by_cases hw : ((s.dropWhile isWsCp).takeWhile (fun c => !isWsCp c)).isEmpty = true
    · rw [if_pos hw]
      have hw' := List.isEmpty_iff.mp hw
      have hnil := dropWhile_ws_eq_nil_of_word_nil s hw'
      have hall : ∀ c ∈ s, isWsCp c = true := (dropWhile_eq_nil_iff isWsCp s).1 hnil
      rw [dropTrailWs_of_all_ws s hall]
      rfl
    · rw [if_neg hw]
      have hwne : (s.dropWhile isWsCp).takeWhile (fun c => !isWsCp c) ≠ [] := by
        intro h; exact hw (List.isEmpty_iff.mpr h)
      have hxne : s.takeWhile isWsCp ++ (s.dropWhile isWsCp).takeWhile (fun c => !isWsCp c) ≠ [] := by
        intro h; exact hwne (List.append_eq_nil_iff.mp h).2
      have hlast : isWsCp ((s.takeWhile isWsCp ++
          (s.dropWhile isWsCp).takeWhile (fun c => !isWsCp c)).getLast hxne) = false := by
        rw [List.getLast_append_of_ne_nil hxne hwne]
        have hm := List.all_eq_true.1 List.all_takeWhile _ (List.getLast_mem hwne)
        simpa using hm
      have hlen' : ((s.dropWhile isWsCp).dropWhile (fun c => !isWsCp c)).length < fuel := by
        have h1 := congrArg List.length hs
        have h2 := congrArg List.length hrest
        rw [List.length_append] at h1 h2
        have h3 : 0 < ((s.dropWhile isWsCp).takeWhile (fun c => !isWsCp c)).length :=
          List.length_pos_iff.mpr hwne
        omega
      rw [List.flatten_cons, ih _ hlen', ← dropTrailWs_append_of_last _ _ hxne hlast,
        List.append_assoc, hrest, hs]

theorem splitWords_flatten (s : List Nat) : (splitWords s).flatten = dropTrailWs s :=
  splitWordsAux_flatten (s.length + 1) s (Nat.lt_succ_self _)

end Tu

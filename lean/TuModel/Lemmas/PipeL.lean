/-
  Lemmas for the threaded `Pipe` model (Model/Pipe.lean): definitions used by C05/C09
  (`holds`, `pmeasure`, `takesLeft`); sums over the workers (`wsum`) and what one worker's move does to
  them (`wsum_setPc`); the upstream (`itemsBefore`, `gapsBefore`, `gapDelivered`); and the transition
  function `pstep` as a relation (`Move`, `PStep`), so that no later proof unfolds a `step…` function.
-/
import TuModel.Model.Pipe
namespace Tu

/-- worker `w` currently owns item `i` (took it, has not yet advanced `turn` past it) -/
def holds (s : PState) (w i : Nat) : Prop :=
  s.pc w = .holding i ∨ s.pc w = .computed i ∨ s.pc w = .cleared i ∨ ∃ ok, s.pc w = .sent i ok

/-- falls by 2 at each step of a worker's round `holding → computed → cleared → sent → idle` (a successful send also
lengthens the channel by 1); a take raises it by 8, which the 10 per call of `upstream.next()` in `pmeasure` pays for -/
def pcRank : PC → Nat
  | .idle => 1 | .sent _ _ => 3 | .cleared _ => 5 | .computed _ => 7 | .holding _ => 9 | .exited => 0

/-- progress measure: strictly decreases on every non-stutter step (other than `drop`), provided the upstream
returns `None` for ever from its `N`-th call on -/
def pmeasure (N : Nat) (s : PState) : Nat :=
  10 * (N - s.pulls) + ((List.range s.W).map (fun w => pcRank (s.pc w))).sum + s.chan.length + (if s.closed then 0 else 1)

/-- takes still possible after the consumer is gone: only workers that are idle, or will become idle -/
def takesLeft (s : PState) : Nat :=
  ((List.range s.W).filter (fun w => match s.pc w with | .idle => true | .sent _ true => true | _ => false)).length

def PC.ex : PC → Nat
  | .exited => 1
  | _ => 0

/-- indicator of the predicate counted by `takesLeft` -/
def PC.tl : PC → Nat
  | .idle => 1
  | .sent _ true => 1
  | _ => 0

@[simp] theorem setPc_same (pc : Nat → PC) (w : Nat) (v : PC) : setPc pc w v w = v := by
  simp [setPc]

theorem setPc_ne (pc : Nat → PC) {w u : Nat} (v : PC) (h : u ≠ w) : setPc pc w v u = pc u := by
  simp [setPc, h]

@[simp] theorem bump_same (c : Nat → Nat) (i : Nat) : bump c i i = c i + 1 := by simp [bump]

theorem bump_ne (c : Nat → Nat) {i j : Nat} (h : j ≠ i) : bump c i j = c j := by simp [bump, h]

def wsum (W : Nat) (pc : Nat → PC) (f : PC → Nat) : Nat := ((List.range W).map (fun u => f (pc u))).sum

theorem wsum_succ (W : Nat) (pc : Nat → PC) (f : PC → Nat) : wsum (W + 1) pc f = wsum W pc f + f (pc W) := by
  simp only [wsum, List.range_succ, List.map_append, List.sum_append, List.map_cons, List.map_nil, List.sum_cons,
    List.sum_nil, Nat.add_zero]

theorem wsum_congr {f g : PC → Nat} {pc pc' : Nat → PC} :
    ∀ {W : Nat}, (∀ u, u < W → f (pc u) = g (pc' u)) → wsum W pc f = wsum W pc' g
  | 0, _ => rfl
  | W + 1, h => by
    rw [wsum_succ, wsum_succ, wsum_congr fun u hu => h u (Nat.lt_succ_of_lt hu), h W (Nat.lt_succ_self W)]

theorem wsum_setPc (f : PC → Nat) (pc : Nat → PC) {w W : Nat} (v : PC) (hw : w < W) :
    wsum W (setPc pc w v) f + f (pc w) = wsum W pc f + f v := by
  induction W with
  | zero => exact absurd hw (Nat.not_lt_zero w)
  | succ W ih =>
    rw [wsum_succ, wsum_succ]
    by_cases e : w = W
    · subst e
      rw [setPc_same, wsum_congr (g := f) (pc' := pc) fun u hu => by rw [setPc_ne pc v (Nat.ne_of_lt hu)]]
      exact Nat.add_right_comm _ _ _
    · rw [setPc_ne pc v (Ne.symm e), Nat.add_right_comm, ih (Nat.lt_of_le_of_ne (Nat.le_of_lt_succ hw) e)]
      exact Nat.add_right_comm _ _ _

theorem wsum_mono {f g : PC → Nat} (h : ∀ p, f p ≤ g p) (pc : Nat → PC) (W : Nat) : wsum W pc f ≤ wsum W pc g := by
  induction W with
  | zero => exact Nat.le_refl _
  | succ W ih => rw [wsum_succ, wsum_succ]; exact Nat.add_le_add ih (h _)

theorem wsum_const {f : PC → Nat} {pc : Nat → PC} {c W : Nat} (h : ∀ u, u < W → f (pc u) = c) :
    wsum W pc f = c * W := by
  induction W with
  | zero => rfl
  | succ W ih => rw [wsum_succ, ih fun u hu => h u (Nat.lt_succ_of_lt hu), h W (Nat.lt_succ_self W)]; rfl

theorem wsum_all {pc : Nat → PC} {q : PC} {W : Nat} (h : ∀ u, u < W → pc u = q) (f : PC → Nat) :
    wsum W pc f = f q * W :=
  wsum_const fun u hu => by rw [h u hu]

theorem wsum_le {f : PC → Nat} (h : ∀ p, f p ≤ 1) (pc : Nat → PC) (W : Nat) : wsum W pc f ≤ W :=
  Nat.le_trans (wsum_mono h pc W) (Nat.le_of_eq ((wsum_const (c := 1) fun _ _ => rfl).trans (Nat.one_mul W)))

theorem le_wsum (f : PC → Nat) (pc : Nat → PC) {u W : Nat} (hu : u < W) : f (pc u) ≤ wsum W pc f := by
  induction W with
  | zero => exact absurd hu (Nat.not_lt_zero u)
  | succ W ih =>
    rw [wsum_succ]
    by_cases e : u = W
    · subst e; exact Nat.le_add_left _ _
    · exact Nat.le_trans (ih (Nat.lt_of_le_of_ne (Nat.le_of_lt_succ hu) e)) (Nat.le_add_right _ _)

theorem pair_le_wsum (f : PC → Nat) (pc : Nat → PC) {u u' W : Nat} (hu : u < W) (hu' : u' < W) (hne : u ≠ u') :
    f (pc u) + f (pc u') ≤ wsum W pc f := by
  induction W with
  | zero => exact absurd hu (Nat.not_lt_zero u)
  | succ W ih =>
    rw [wsum_succ]
    have lt : ∀ {x}, x < W + 1 → x ≠ W → x < W := fun h e => Nat.lt_of_le_of_ne (Nat.le_of_lt_succ h) e
    by_cases e : u = W
    · subst e; rw [Nat.add_comm]; exact Nat.add_le_add_right (le_wsum f pc (lt hu' (Ne.symm hne))) _
    · by_cases e' : u' = W
      · subst e'; exact Nat.add_le_add_right (le_wsum f pc (lt hu e)) _
      · exact Nat.le_trans (ih (lt hu e) (lt hu' e')) (Nat.le_add_right _ _)

theorem exists_of_wsum_pos {f : PC → Nat} {pc : Nat → PC} {W : Nat} (h : 0 < wsum W pc f) :
    ∃ u, u < W ∧ 0 < f (pc u) := by
  induction W with
  | zero => exact absurd h (Nat.lt_irrefl 0)
  | succ W ih =>
    rw [wsum_succ] at h
    by_cases e : 0 < f (pc W)
    · exact ⟨W, Nat.lt_succ_self W, e⟩
    · obtain ⟨u, hu, h'⟩ := ih (by rwa [Nat.eq_zero_of_not_pos e] at h)
      exact ⟨u, Nat.lt_succ_of_lt hu, h'⟩

theorem takesLeft_eq (s : PState) : takesLeft s = wsum s.W s.pc PC.tl := by
  unfold takesLeft
  generalize s.W = W
  induction W with
  | zero => rfl
  | succ W ih =>
    rw [List.range_succ, List.filter_append, List.length_append, ih, wsum_succ]
    congr 1
    cases h : s.pc W with
    | sent i ok => cases ok <;> simp [List.filter, h, PC.tl]
    | _ => simp [List.filter, h, PC.tl]

theorem pmeasure_eq (N : Nat) (s : PState) :
    pmeasure N s = 10 * (N - s.pulls) + wsum s.W s.pc pcRank + s.chan.length + (if s.closed then 0 else 1) := rfl

theorem allExited_iff (s : PState) : allExited s = true ↔ ∀ w, w < s.W → s.pc w = .exited := by
  simp [allExited, List.all_eq_true]

theorem itemsBefore_succ_true {src : Nat → Bool} {k : Nat} (h : src k = true) :
    itemsBefore src (k + 1) = itemsBefore src k + 1 := by
  show itemsBefore src k + (if src k then 1 else 0) = _
  rw [h]; rfl

theorem itemsBefore_succ_false {src : Nat → Bool} {k : Nat} (h : src k = false) :
    itemsBefore src (k + 1) = itemsBefore src k := by
  show itemsBefore src k + (if src k then 1 else 0) = _
  rw [h]; rfl

theorem gapsBefore_succ_true {src : Nat → Bool} {k : Nat} (h : src k = true) :
    gapsBefore src (k + 1) = gapsBefore src k := by
  show gapsBefore src k + (if src k then 0 else 1) = _
  rw [h]; rfl

theorem gapsBefore_succ_false {src : Nat → Bool} {k : Nat} (h : src k = false) :
    gapsBefore src (k + 1) = gapsBefore src k + 1 := by
  show gapsBefore src k + (if src k then 0 else 1) = _
  rw [h]; rfl

theorem items_add_gaps (src : Nat → Bool) (k : Nat) : itemsBefore src k + gapsBefore src k = k := by
  induction k with
  | zero => rfl
  | succ k ih =>
    cases h : src k
    · rw [itemsBefore_succ_false h, gapsBefore_succ_false h]; omega
    · rw [itemsBefore_succ_true h, gapsBefore_succ_true h]; omega

theorem gapsBefore_mono (src : Nat → Bool) {j k : Nat} (h : j ≤ k) : gapsBefore src j ≤ gapsBefore src k := by
  induction k with
  | zero => have : j = 0 := by omega
            subst this; exact Nat.le_refl _
  | succ k ih =>
    by_cases hj : j = k + 1
    · subst hj; exact Nat.le_refl _
    · have := ih (by omega)
      cases hs : src k
      · rw [gapsBefore_succ_false hs]; omega
      · rw [gapsBefore_succ_true hs]; omega

theorem fused_true {n k : Nat} (h : k < n) : fused n k = true := by simp [fused, h]
theorem fused_false {n k : Nat} (h : n ≤ k) : fused n k = false := by
  simp only [fused, decide_eq_false_iff_not]; omega

theorem itemsBefore_fused (n k : Nat) : itemsBefore (fused n) k = min k n := by
  induction k with
  | zero => simp [itemsBefore]
  | succ k ih =>
    by_cases h : k < n
    · rw [itemsBefore_succ_true (fused_true h), ih]; omega
    · rw [itemsBefore_succ_false (fused_false (by omega)), ih]; omega

theorem gapsBefore_fused (n k : Nat) : gapsBefore (fused n) k = k - n := by
  have := items_add_gaps (fused n) k
  rw [itemsBefore_fused] at this
  omega

theorem itemsBefore_shift {src src' : Nat → Bool} {e : Bool} (h0 : src 0 = e) (h : ∀ j, src (j + 1) = src' j) (k : Nat) :
    itemsBefore src (k + 1) = (if e then 1 else 0) + itemsBefore src' k := by
  induction k with
  | zero => subst h0; exact (Nat.add_comm _ _).trans rfl
  | succ k ih =>
    cases hb : src' k
    · rw [itemsBefore_succ_false ((h k).trans hb), ih, itemsBefore_succ_false hb]
    · rw [itemsBefore_succ_true ((h k).trans hb), ih, itemsBefore_succ_true hb, Nat.add_assoc]

theorem gapsBefore_shift {src src' : Nat → Bool} {e : Bool} (h0 : src 0 = e) (h : ∀ j, src (j + 1) = src' j) (k : Nat) :
    gapsBefore src (k + 1) = (if e then 0 else 1) + gapsBefore src' k := by
  induction k with
  | zero => subst h0; exact (Nat.add_comm _ _).trans rfl
  | succ k ih =>
    cases hb : src' k
    · rw [gapsBefore_succ_false ((h k).trans hb), ih, gapsBefore_succ_false hb, Nat.add_assoc]
    · rw [gapsBefore_succ_true ((h k).trans hb), ih, gapsBefore_succ_true hb]

theorem srcOf_nil (k : Nat) : srcOf [] k = false := rfl
theorem srcOf_cons_zero (e : Bool) (es : List Bool) : srcOf (e :: es) 0 = e := rfl
theorem srcOf_cons_succ (e : Bool) (es : List Bool) : (fun j => srcOf (e :: es) (j + 1)) = srcOf es := rfl

theorem itemsBefore_srcOf_nil (k : Nat) : itemsBefore (srcOf []) k = 0 := by
  induction k with
  | zero => rfl
  | succ k ih => rw [itemsBefore_succ_false (srcOf_nil k), ih]

theorem srcOf_exhausted (entries : List Bool) (k : Nat) (h : entries.length ≤ k) : srcOf entries k = false := by
  unfold srcOf
  rw [List.getD_eq_getElem?_getD, List.getElem?_eq_none h]; rfl

/-- the pulls `p` at which exactly `W` gaps were consumed and not before: the items before it are what
`gapDelivered` computes -/
theorem gapDelivered_spec (entries : List Bool) : ∀ (W p : Nat),
    gapsBefore (srcOf entries) p = W → (∀ k, k < p → gapsBefore (srcOf entries) k < W) →
    itemsBefore (srcOf entries) p = gapDelivered W entries := by
  induction entries with
  | nil =>
    intro W p _ _
    rw [itemsBefore_srcOf_nil]
    cases W <;> rfl
  | cons e es ih =>
    intro W p hg hmin
    cases p with
    | zero => cases hg; rfl
    | succ p =>
      have sh := gapsBefore_shift (src := srcOf (e :: es)) (src' := srcOf es) (e := e) rfl (fun _ => rfl)
      rw [sh] at hg
      rw [itemsBefore_shift (src' := srcOf es) (e := e) rfl (fun _ => rfl)]
      have hmin' : ∀ k, k < p → (if e then 0 else 1) + gapsBefore (srcOf es) k < W :=
        fun k hk => sh k ▸ hmin (k + 1) (Nat.succ_lt_succ hk)
      -- `W = 0` is impossible: there is no gap before the first answer
      cases W with
      | zero => exact absurd (hmin 0 (Nat.succ_pos p)) (Nat.lt_irrefl 0)
      | succ W =>
        cases e with
        | true =>
          simp only [if_true, Nat.zero_add] at hg hmin' ⊢
          rw [ih (W + 1) p hg hmin']
          exact Nat.add_comm _ _
        | false =>
          simp only [Bool.false_eq_true, if_false, Nat.zero_add] at hg hmin' ⊢
          rw [ih W p (by omega) fun k hk => by have := hmin' k hk; omega]
          rfl

theorem ex_idle : PC.ex .idle = 0 := rfl
theorem ex_exited : PC.ex .exited = 1 := rfl
theorem ex_holding (i : Nat) : PC.ex (.holding i) = 0 := rfl
theorem ex_computed (i : Nat) : PC.ex (.computed i) = 0 := rfl
theorem ex_cleared (i : Nat) : PC.ex (.cleared i) = 0 := rfl
theorem ex_sent (i : Nat) (ok : Bool) : PC.ex (.sent i ok) = 0 := rfl

theorem wsum_ex_le (pc : Nat → PC) (W : Nat) : wsum W pc PC.ex ≤ W :=
  wsum_le (fun p => by cases p <;> simp [PC.ex]) pc W

theorem wsum_ex_lt (pc : Nat → PC) {w W : Nat} (hw : w < W) (h : (pc w).ex = 0) : wsum W pc PC.ex < W := by
  have h1 := wsum_setPc PC.ex pc .exited hw
  have h2 := wsum_ex_le (setPc pc w .exited) W
  rw [h, ex_exited] at h1
  omega

/-! ### what the invariant counts (besides `PC.ex`) -/

/-- 1 if the program counter owns an item -/
def PC.busy : PC → Nat
  | .idle => 0
  | .exited => 0
  | _ => 1

/-- 1 if the program counter owns item `i` -/
def PC.own (i : Nat) : PC → Nat
  | .holding j => if j = i then 1 else 0
  | .computed j => if j = i then 1 else 0
  | .cleared j => if j = i then 1 else 0
  | .sent j _ => if j = i then 1 else 0
  | _ => 0

/-- 1 if the program counter is past the spin loop with item `i` -/
def PC.front (i : Nat) : PC → Nat
  | .cleared j => if j = i then 1 else 0
  | .sent j _ => if j = i then 1 else 0
  | _ => 0

/-- 1 between a send and the swap of `send_next` -/
def PC.snt : PC → Nat
  | .sent _ _ => 1
  | _ => 0

/-- 1 after a failed send -/
def PC.failed : PC → Nat
  | .sent _ false => 1
  | _ => 0

/-- 1 if the pipeline function is still to be applied to item `i` -/
def PC.hold (i : Nat) : PC → Nat
  | .holding j => if j = i then 1 else 0
  | _ => 0

theorem holds_iff (s : PState) (w i : Nat) : holds s w i ↔ (s.pc w).own i = 1 := by
  unfold holds
  cases s.pc w <;> simp [PC.own]

theorem PC.front_le_own (i : Nat) (p : PC) : p.front i ≤ p.own i := by
  cases p <;> simp only [PC.front, PC.own, Nat.le_refl, Nat.zero_le]

/-- what worker `w` does at program counter `p` by action `a`: its new program counter `v`, and the state `t` with
the other components updated (`t.pc` is still the old one) -/
inductive Move (s : PState) (w : Nat) : PAction → PC → PC → PState → Prop
  | takeSome : s.src s.pulls = true →
      Move s w (.take w) .idle (.holding s.next) { s with next := s.next + 1, pulls := s.pulls + 1 }
  | takeNone : s.src s.pulls = false → Move s w (.take w) .idle .exited { s with pulls := s.pulls + 1 }
  | compute (i : Nat) : Move s w (.compute w) (.holding i) (.computed i) { s with calls := bump s.calls i }
  | spin : Move s w (.spin w) (.computed s.turn) (.cleared s.turn) s
  | sendFail (i : Nat) : s.dropped = true → Move s w (.send w) (.cleared i) (.sent i false) s
  | sendOk (i : Nat) : s.dropped = false → s.chan.length < s.W →
      Move s w (.send w) (.cleared i) (.sent i true) { s with chan := s.chan ++ [i] }
  | advance (i : Nat) : Move s w (.advance w) (.sent i true) .idle { s with turn := i + 1 }
  | quit (i : Nat) : Move s w (.advance w) (.sent i false) .exited { s with turn := i + 1 }

/-- `pstep` as a relation: a worker moves, a worker finds that it is not its turn (`wait`, a stutter), or the
consumer acts -/
inductive PStep (s : PState) : PAction → PState → Prop
  | move {w : Nat} {a : PAction} {p v : PC} {t : PState} : w < s.W → s.pc w = p → Move s w a p v t →
      PStep s a { t with pc := setPc s.pc w v }
  | wait {w i : Nat} : w < s.W → s.pc w = .computed i → s.turn ≠ i → PStep s (.spin w) s
  | recv {x : Nat} {rest : List Nat} : s.dropped = false → s.closed = false → s.chan = x :: rest →
      PStep s .recv { s with chan := rest, recvd := s.recvd ++ [x] }
  | close : s.dropped = false → s.closed = false → s.chan = [] → (∀ w, w < s.W → s.pc w = .exited) →
      PStep s .close { s with closed := true }
  | drop : s.dropped = false → s.closed = false → PStep s .drop { s with dropped := true }

theorem PStep.of_pstep {s s' : PState} {a : PAction} (hs : pstep s a = some s') : PStep s a s' := by
  cases a with
  | take w =>
    simp only [pstep, stepTake] at hs
    by_cases hg : w < s.W ∧ s.pc w = .idle
    · rw [if_pos hg] at hs
      by_cases hsrc : s.src s.pulls = true
      · rw [if_pos hsrc] at hs
        injection hs with hs; subst hs
        exact .move hg.1 hg.2 (.takeSome hsrc)
      · rw [if_neg hsrc] at hs
        injection hs with hs; subst hs
        exact .move hg.1 hg.2 (.takeNone (Bool.eq_false_iff.mpr hsrc))
    · rw [if_neg hg] at hs; cases hs
  | compute w =>
    simp only [pstep, stepCompute] at hs
    by_cases hw : w < s.W
    · rw [if_pos hw] at hs
      split at hs
      · rename_i i hpc
        injection hs with hs; subst hs
        exact .move hw hpc (.compute i)
      · cases hs
    · rw [if_neg hw] at hs; cases hs
  | spin w =>
    simp only [pstep, stepSpin] at hs
    by_cases hw : w < s.W
    · rw [if_pos hw] at hs
      split at hs
      · rename_i i hpc
        by_cases ht : s.turn = i
        · rw [if_pos ht] at hs
          injection hs with hs; subst hs; subst ht
          exact .move hw hpc .spin
        · rw [if_neg ht] at hs
          injection hs with hs; subst hs
          exact .wait hw hpc ht
      · cases hs
    · rw [if_neg hw] at hs; cases hs
  | send w =>
    simp only [pstep, stepSend] at hs
    by_cases hw : w < s.W
    · rw [if_pos hw] at hs
      split at hs
      · rename_i i hpc
        by_cases hd : s.dropped = true
        · rw [if_pos hd] at hs
          injection hs with hs; subst hs
          exact .move hw hpc (.sendFail i hd)
        · by_cases hl : s.chan.length < s.W
          · rw [if_neg hd, if_pos hl] at hs
            injection hs with hs; subst hs
            exact .move hw hpc (.sendOk i (Bool.eq_false_iff.mpr hd) hl)
          · rw [if_neg hd, if_neg hl] at hs; cases hs
      · cases hs
    · rw [if_neg hw] at hs; cases hs
  | advance w =>
    simp only [pstep, stepAdvance] at hs
    by_cases hw : w < s.W
    · rw [if_pos hw] at hs
      split at hs
      · rename_i i ok hpc
        injection hs with hs; subst hs
        cases ok
        · exact .move hw hpc (.quit i)
        · exact .move hw hpc (.advance i)
      · cases hs
    · rw [if_neg hw] at hs; cases hs
  | recv =>
    simp only [pstep, stepRecv] at hs
    split at hs
    · cases hs
    · rename_i hdc
      simp only [Bool.or_eq_true, not_or, Bool.not_eq_true] at hdc
      split at hs
      · rename_i x rest hch
        injection hs with hs; subst hs
        exact .recv hdc.1 hdc.2 hch
      · cases hs
  | close =>
    simp only [pstep, stepClose] at hs
    split at hs
    · rename_i hg
      injection hs with hs; subst hs
      simp only [Bool.and_eq_true, Bool.not_eq_true', List.isEmpty_iff, allExited_iff] at hg
      exact .close hg.1.1.1 hg.1.1.2 hg.1.2 hg.2
    · cases hs
  | drop =>
    simp only [pstep, stepDrop] at hs
    split at hs
    · cases hs
    · rename_i hdc
      simp only [Bool.or_eq_true, not_or, Bool.not_eq_true] at hdc
      injection hs with hs; subst hs
      exact .drop hdc.1 hdc.2

theorem PStep.pstep {s s' : PState} {a : PAction} (h : PStep s a s') : pstep s a = some s' := by
  cases h with
  | move hw hpc m =>
    cases m <;> simp_all [Tu.pstep, stepTake, stepCompute, stepSpin, stepSend, stepAdvance]
  | wait hw hpc ht => simp_all [Tu.pstep, stepSpin]
  | recv hd hc hch => simp_all [Tu.pstep, stepRecv]
  | close hd hc hch hall => simp_all [Tu.pstep, stepClose, allExited_iff]
  | drop hd hc => simp_all [Tu.pstep, stepDrop]

end Tu

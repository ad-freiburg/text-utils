/-
  The incremental BPE trainer (Model/BpeTrainInc.lean), the statistics as a pair of hash maps.  A `Stats` value means
  `freqOf` / `occOf` / `hasKey`, all read off `entry`; a sequence of `statsDec` / `statsInc` (`applyDecs` / `applyIncs`)
  subtracts / adds `cnt q L` there and changes nothing else (`applyDecs_effect`, `applyIncs_effect`).  `StatsOk`: the
  statistics are the recount (`pairFreq`, `wcount`); `byte_pair_stats` computes such.
-/
import TuModel.Lemmas.BpeTrainWord
namespace Tu.BpeTrainIncL
open Tu

section AL
set_option linter.unusedSectionVars false
variable {κ β : Type} [BEq κ] [LawfulBEq κ] [DecidableEq κ]

def alKeys (l : List (κ × β)) : List κ := l.map (·.1)

@[simp] theorem alKeys_nil : alKeys ([] : List (κ × β)) = [] := rfl
@[simp] theorem alKeys_cons (e : κ × β) (r : List (κ × β)) : alKeys (e :: r) = e.1 :: alKeys r := rfl

theorem alGet_nil (k : κ) : alGet ([] : List (κ × β)) k = none := rfl
theorem alGet_cons (k' : κ) (v : β) (r : List (κ × β)) (k : κ) :
    alGet ((k', v) :: r) k = if k' = k then some v else alGet r k := by
  rw [alGet]; simp only [beq_iff_eq]
theorem alModify_nil (f : β → β) (k : κ) : alModify f ([] : List (κ × β)) k = [] := rfl
theorem alModify_cons (f : β → β) (k' : κ) (v : β) (r : List (κ × β)) (k : κ) :
    alModify f ((k', v) :: r) k = if k' = k then (k', f v) :: r else (k', v) :: alModify f r k := by
  rw [alModify]; simp only [beq_iff_eq]
theorem alUpsert_nil (f : β → β) (d : β) (k : κ) : alUpsert f d ([] : List (κ × β)) k = [(k, d)] := rfl
theorem alUpsert_cons (f : β → β) (d : β) (k' : κ) (v : β) (r : List (κ × β)) (k : κ) :
    alUpsert f d ((k', v) :: r) k = if k' = k then (k', f v) :: r else (k', v) :: alUpsert f d r k := by
  rw [alUpsert]; simp only [beq_iff_eq]

theorem alGet_isSome_iff (l : List (κ × β)) (k : κ) : (∃ v, alGet l k = some v) ↔ k ∈ alKeys l := by
  induction l with
  | nil => exact ⟨fun ⟨_, h⟩ => (nomatch h), fun h => (nomatch h)⟩
  | cons e r ih =>
    obtain ⟨k', v⟩ := e
    rw [alGet_cons, alKeys_cons, List.mem_cons]
    by_cases h : k' = k
    · rw [if_pos h]; exact ⟨fun _ => Or.inl h.symm, fun _ => ⟨v, rfl⟩⟩
    · rw [if_neg h, ih]; exact ⟨Or.inr, fun h2 => h2.resolve_left fun h3 => h h3.symm⟩

theorem alGet_modify (f : β → β) (l : List (κ × β)) (k k' : κ) :
    alGet (alModify f l k) k' = if k = k' then (alGet l k').map f else alGet l k' := by
  induction l with
  | nil => rw [alModify_nil, alGet_nil]; split <;> rfl
  | cons e r ih =>
    obtain ⟨k0, v⟩ := e
    rw [alModify_cons]
    by_cases h0 : k0 = k
    · subst h0
      rw [if_pos rfl, alGet_cons, alGet_cons]
      by_cases h1 : k0 = k'
      · rw [if_pos h1, if_pos h1, if_pos h1]; rfl
      · rw [if_neg h1, if_neg h1, if_neg h1]
    · rw [if_neg h0, alGet_cons, alGet_cons, ih]
      by_cases h1 : k0 = k'
      · rw [if_pos h1, if_pos h1, if_neg fun h => h0 (h1.trans h.symm)]
      · rw [if_neg h1, if_neg h1]

theorem alKeys_modify (f : β → β) (l : List (κ × β)) (k : κ) : alKeys (alModify f l k) = alKeys l := by
  induction l with
  | nil => rfl
  | cons e r ih =>
    obtain ⟨k0, v⟩ := e
    rw [alModify_cons]
    split
    · rfl
    · rw [alKeys_cons, alKeys_cons, ih]

theorem alGet_upsert (f : β → β) (d : β) (l : List (κ × β)) (k k' : κ) :
    alGet (alUpsert f d l k) k' =
      if k = k' then some (((alGet l k).map f).getD d) else alGet l k' := by
  induction l with
  | nil => rw [alUpsert_nil, alGet_cons, alGet_nil, alGet_nil]; rfl
  | cons e r ih =>
    obtain ⟨k0, v⟩ := e
    rw [alUpsert_cons]
    by_cases h0 : k0 = k
    · subst h0
      rw [if_pos rfl, alGet_cons, alGet_cons, alGet_cons, if_pos rfl]
      by_cases h1 : k0 = k'
      · rw [if_pos h1, if_pos h1]; rfl
      · rw [if_neg h1, if_neg h1, if_neg h1]
    · rw [if_neg h0, alGet_cons, alGet_cons, alGet_cons, ih, if_neg h0]
      by_cases h1 : k0 = k'
      · rw [if_pos h1, if_pos h1, if_neg fun h => h0 (h1.trans h.symm)]
      · rw [if_neg h1, if_neg h1]

theorem mem_alKeys_upsert (f : β → β) (d : β) (l : List (κ × β)) (k k' : κ) :
    k' ∈ alKeys (alUpsert f d l k) ↔ k' ∈ alKeys l ∨ k' = k := by
  induction l with
  | nil => exact ⟨fun h => Or.inr (List.mem_singleton.mp h), fun h => h.elim (fun h => (nomatch h)) List.mem_singleton.mpr⟩
  | cons e r ih =>
    obtain ⟨k0, v⟩ := e
    rw [alUpsert_cons]
    split
    · rename_i h0
      rw [alKeys_cons, alKeys_cons, ← h0]
      exact ⟨Or.inl, fun h => h.elim id fun h => List.mem_cons.mpr (Or.inl h)⟩
    · rw [alKeys_cons, alKeys_cons, List.mem_cons, List.mem_cons, ih, or_assoc]

theorem nodup_alKeys_upsert (f : β → β) (d : β) (l : List (κ × β)) (k : κ) (h : (alKeys l).Nodup) :
    (alKeys (alUpsert f d l k)).Nodup := by
  induction l with
  | nil => exact List.nodup_cons.mpr ⟨List.not_mem_nil, List.nodup_nil⟩
  | cons e r ih =>
    obtain ⟨k0, v⟩ := e
    rw [alUpsert_cons]
    rw [alKeys_cons, List.nodup_cons] at h
    split
    · exact List.nodup_cons.mpr h
    · rename_i h0
      rw [alKeys_cons, List.nodup_cons, mem_alKeys_upsert]
      exact ⟨fun hm => hm.elim h.1 h0, ih h.2⟩

theorem alGet_of_mem (l : List (κ × β)) (h : (alKeys l).Nodup) (e : κ × β) (he : e ∈ l) : alGet l e.1 = some e.2 := by
  induction l with
  | nil => cases he
  | cons e0 r ih =>
    obtain ⟨k0, v⟩ := e0
    rw [alKeys_cons, List.nodup_cons] at h
    rw [alGet_cons]
    rcases List.mem_cons.mp he with he | he
    · subst he; exact if_pos rfl
    · rw [if_neg fun hk => h.1 (by rw [hk]; exact List.mem_map.mpr ⟨e, he, rfl⟩)]
      exact ih h.2 he

theorem mem_of_alGet (l : List (κ × β)) (k : κ) (v : β) (h : alGet l k = some v) : (k, v) ∈ l := by
  induction l with
  | nil => cases h
  | cons e0 r ih =>
    obtain ⟨k0, v0⟩ := e0
    rw [alGet_cons] at h
    split at h
    · rename_i h0
      rw [← h0, ← Option.some.inj h]
      exact List.mem_cons_self
    · exact List.mem_cons_of_mem _ (ih h)

theorem find?_eq_alGet : ∀ (l : List (κ × β)) (k : κ), (l.find? (fun e => e.1 == k)).map (·.2) = alGet l k := by
  intro l
  induction l with
  | nil => intro k; rfl
  | cons e r ih =>
    intro k
    obtain ⟨k0, v⟩ := e
    rw [List.find?_cons, alGet_cons]
    by_cases h : k0 = k
    · rw [if_pos h, beq_iff_eq.mpr h]; rfl
    · rw [if_neg h, beq_eq_false_iff_ne.mpr h]; exact ih k

end AL

def freqOf (st : Stats) (q : BPair) : Nat :=
  match alGet st q with
  | some info => info.1
  | none => 0

def occOf (st : Stats) (q : BPair) (i : Nat) : Nat :=
  match alGet st q with
  | some info => (alGet info.2 i).getD 0
  | none => 0

def hasKey (st : Stats) (q : BPair) (i : Nat) : Prop := ∃ info, alGet st q = some info ∧ i ∈ alKeys info.2

/-- structural well-formedness of a `Stats` value as a pair of hash maps: no duplicate keys, word indices in range -/
def StatsWf (n : Nat) (st : Stats) : Prop :=
  (alKeys st).Nodup ∧ ∀ q info, alGet st q = some info → (alKeys info.2).Nodup ∧ ∀ i, i ∈ alKeys info.2 → i < n

/-- the function `statsDec` applies to the entry -/
def decFn (idx f : Nat) (info : PairInfo) : PairInfo := (info.1 - f, alModify (fun occ => occ - 1) info.2 idx)
/-- the function `statsInc` applies to an existing entry -/
def incFn (idx f : Nat) (info : PairInfo) : PairInfo := (info.1 + f, alUpsert (fun occ => occ + 1) 1 info.2 idx)

/-- the entry of `q`, an absent one read as the empty entry: `freqOf`, `occOf`, `hasKey` and `StatsWf` only depend on it,
and `decFn` / `incFn` act on it whether or not the entry was there -/
def entry (st : Stats) (q : BPair) : PairInfo := (alGet st q).getD (0, [])

theorem freqOf_eq (st : Stats) (q : BPair) : freqOf st q = (entry st q).1 := by
  unfold freqOf entry
  cases alGet st q <;> rfl

theorem occOf_eq (st : Stats) (q : BPair) (i : Nat) : occOf st q i = (alGet (entry st q).2 i).getD 0 := by
  unfold occOf entry
  cases alGet st q <;> rfl

theorem hasKey_iff (st : Stats) (q : BPair) (i : Nat) : hasKey st q i ↔ i ∈ alKeys (entry st q).2 := by
  unfold hasKey entry
  cases alGet st q with
  | none => exact ⟨fun ⟨_, h, _⟩ => (nomatch h), fun h => (nomatch h)⟩
  | some info => exact ⟨fun ⟨_, h, hi⟩ => Option.some.inj h ▸ hi, fun hi => ⟨info, rfl, hi⟩⟩

theorem StatsWf_iff (n : Nat) (st : Stats) : StatsWf n st ↔
    (alKeys st).Nodup ∧ ∀ q, (alKeys (entry st q).2).Nodup ∧ ∀ i, i ∈ alKeys (entry st q).2 → i < n := by
  unfold StatsWf entry
  refine and_congr_right fun _ => ⟨fun h q => ?_, fun h q info hq => ?_⟩
  · cases hq : alGet st q with
    | none => exact ⟨List.nodup_nil, fun _ hi => nomatch hi⟩
    | some info => exact h q info hq
  · have := h q
    rw [hq] at this
    exact this

theorem entry_modify (g : PairInfo → PairInfo) (hg : g (0, []) = (0, [])) (st : Stats) (q q' : BPair) :
    entry (alModify g st q) q' = if q = q' then g (entry st q') else entry st q' := by
  unfold entry
  rw [alGet_modify]
  split
  · cases alGet st q' with
    | none => exact hg.symm
    | some info => rfl
  · rfl

theorem entry_dec (st : Stats) (q q' : BPair) (idx f : Nat) :
    entry (alModify (decFn idx f) st q) q' = if q = q' then decFn idx f (entry st q') else entry st q' :=
  entry_modify _ (Prod.ext (Nat.zero_sub f) rfl) st q q'

theorem entry_inc (st : Stats) (q q' : BPair) (idx f : Nat) :
    entry (statsInc st q idx f) q' = if q = q' then incFn idx f (entry st q') else entry st q' := by
  unfold entry statsInc
  rw [alGet_upsert]
  split
  · rename_i h
    subst h
    cases alGet st q with
    | none => exact Prod.ext (Nat.zero_add f).symm rfl
    | some info => rfl
  · rfl

theorem statsDec_eq (st : Stats) (q : BPair) (idx f : Nat) (h : hasKey st q idx) :
    statsDec st q idx f = some (alModify (decFn idx f) st q) := by
  obtain ⟨info, h1, h2⟩ := h
  obtain ⟨v, hv⟩ := (alGet_isSome_iff info.2 idx).mpr h2
  unfold statsDec
  rw [h1]
  simp only
  rw [hv]
  rfl

theorem freqOf_dec (st : Stats) (a q : BPair) (idx f : Nat) :
    freqOf (alModify (decFn idx f) st a) q = freqOf st q - f * cnt q [a] := by
  rw [freqOf_eq, freqOf_eq, entry_dec, cnt_singleton]
  by_cases h : a = q
  · rw [if_pos h, if_pos h, Nat.mul_one]; rfl
  · rw [if_neg h, if_neg h, Nat.mul_zero]; rfl

theorem occOf_dec (st : Stats) (a q : BPair) (idx f i : Nat) :
    occOf (alModify (decFn idx f) st a) q i = if idx = i then occOf st q i - cnt q [a] else occOf st q i := by
  rw [occOf_eq, occOf_eq, entry_dec, cnt_singleton]
  by_cases h : a = q
  · rw [if_pos h, if_pos h, decFn, alGet_modify]
    by_cases hi : idx = i
    · rw [if_pos hi, if_pos hi]; cases alGet (entry st q).2 i <;> rfl
    · rw [if_neg hi, if_neg hi]
  · rw [if_neg h, if_neg h]; split <;> rfl

theorem hasKey_dec (st : Stats) (q q' : BPair) (idx f i : Nat) :
    hasKey (alModify (decFn idx f) st q) q' i ↔ hasKey st q' i := by
  rw [hasKey_iff, hasKey_iff, entry_dec]
  split
  · rw [decFn, alKeys_modify]
  · rfl

theorem StatsWf_dec (n : Nat) (st : Stats) (q : BPair) (idx f : Nat) (h : StatsWf n st) :
    StatsWf n (alModify (decFn idx f) st q) := by
  rw [StatsWf_iff] at h ⊢
  refine ⟨by rw [alKeys_modify]; exact h.1, fun q' => ?_⟩
  rw [entry_dec]
  split
  · rw [decFn, alKeys_modify]; exact h.2 q'
  · exact h.2 q'

theorem freqOf_inc (st : Stats) (a q : BPair) (idx f : Nat) :
    freqOf (statsInc st a idx f) q = freqOf st q + f * cnt q [a] := by
  rw [freqOf_eq, freqOf_eq, entry_inc, cnt_singleton]
  by_cases h : a = q
  · rw [if_pos h, if_pos h, Nat.mul_one]; rfl
  · rw [if_neg h, if_neg h, Nat.mul_zero]; rfl

theorem occOf_inc (st : Stats) (a q : BPair) (idx f i : Nat) :
    occOf (statsInc st a idx f) q i = if idx = i then occOf st q i + cnt q [a] else occOf st q i := by
  rw [occOf_eq, occOf_eq, entry_inc, cnt_singleton]
  by_cases h : a = q
  · rw [if_pos h, if_pos h, incFn, alGet_upsert]
    by_cases hi : idx = i
    · subst hi; rw [if_pos rfl, if_pos rfl]; cases alGet (entry st q).2 idx <;> rfl
    · rw [if_neg hi, if_neg hi]
  · rw [if_neg h, if_neg h]; split <;> rfl

theorem hasKey_inc (st : Stats) (q q' : BPair) (idx f i : Nat) (h : hasKey st q' i) :
    hasKey (statsInc st q idx f) q' i := by
  rw [hasKey_iff] at h ⊢
  rw [entry_inc]
  split
  · rw [incFn, mem_alKeys_upsert]; exact Or.inl h
  · exact h

theorem hasKey_inc_self (st : Stats) (q : BPair) (idx f : Nat) : hasKey (statsInc st q idx f) q idx := by
  rw [hasKey_iff, entry_inc, if_pos rfl, incFn, mem_alKeys_upsert]
  exact Or.inr rfl

theorem StatsWf_inc (n : Nat) (st : Stats) (q : BPair) (idx f : Nat) (h : StatsWf n st) (hidx : idx < n) :
    StatsWf n (statsInc st q idx f) := by
  rw [StatsWf_iff] at h ⊢
  refine ⟨nodup_alKeys_upsert _ _ _ _ h.1, fun q' => ?_⟩
  rw [entry_inc]
  split
  · refine ⟨nodup_alKeys_upsert _ _ _ _ (h.2 q').1, fun i hi => ?_⟩
    rcases (mem_alKeys_upsert _ _ _ _ _).mp hi with hi | hi
    · exact (h.2 q').2 i hi
    · rw [hi]; exact hidx
  · exact h.2 q'

theorem occOf_pos_hasKey (st : Stats) (q : BPair) (i : Nat) (h : 0 < occOf st q i) : hasKey st q i := by
  rw [occOf_eq] at h
  rw [hasKey_iff]
  cases hi : alGet (entry st q).2 i with
  | none => rw [hi] at h; cases h
  | some v => exact (alGet_isSome_iff _ i).mp ⟨v, hi⟩

theorem alGet_of_freq_pos (st : Stats) (p : BPair) (h : 0 < freqOf st p) : ∃ info, alGet st p = some info := by
  unfold freqOf at h
  cases hg : alGet st p with
  | none => rw [hg] at h; cases h
  | some info => exact ⟨info, rfl⟩

theorem applyDecs_effect (n idx f : Nat) : ∀ (L : List BPair) (st : Stats), (∀ q ∈ L, hasKey st q idx) →
    ∃ st', applyDecs idx f L st = some st' ∧
      (∀ q, freqOf st' q = freqOf st q - f * cnt q L) ∧
      (∀ q i, occOf st' q i = if idx = i then occOf st q i - cnt q L else occOf st q i) ∧
      (∀ q i, hasKey st' q i ↔ hasKey st q i) ∧
      (StatsWf n st → StatsWf n st') := by
  intro L
  induction L with
  | nil =>
    intro st _
    exact ⟨st, rfl, by simp, by simp, by simp, id⟩
  | cons a r ih =>
    intro st h
    have ha := h a (by simp)
    rw [applyDecs_cons, statsDec_eq st a idx f ha]
    simp only [Option.bind_some]
    obtain ⟨st', e, h1, h2, h3, h4⟩ := ih (alModify (decFn idx f) st a) (by
      intro q hq
      rw [hasKey_dec]
      exact h q (List.mem_cons_of_mem _ hq))
    refine ⟨st', e, fun q => ?_, fun q i => ?_, fun q i => by rw [h3, hasKey_dec],
      fun hw => h4 (StatsWf_dec n st a idx f hw)⟩
    · rw [h1, freqOf_dec, Nat.sub_sub, ← Nat.mul_add, ← cnt_append]; rfl
    · rw [h2, occOf_dec]
      by_cases hi : idx = i
      · simp only [if_pos hi]; rw [Nat.sub_sub, ← cnt_append]; rfl
      · simp only [if_neg hi]

theorem applyIncs_effect (n idx f : Nat) (hidx : idx < n) : ∀ (L : List BPair) (st : Stats),
      (∀ q, freqOf (applyIncs idx f L st) q = freqOf st q + f * cnt q L) ∧
      (∀ q i, occOf (applyIncs idx f L st) q i = if idx = i then occOf st q i + cnt q L else occOf st q i) ∧
      (∀ q i, hasKey st q i → hasKey (applyIncs idx f L st) q i) ∧
      (StatsWf n st → StatsWf n (applyIncs idx f L st)) := by
  intro L
  induction L with
  | nil => intro st; exact ⟨by simp [applyIncs_nil], by simp [applyIncs_nil], fun _ _ h => h, id⟩
  | cons a r ih =>
    intro st
    rw [applyIncs_cons]
    obtain ⟨h1, h2, h3, h4⟩ := ih (statsInc st a idx f)
    refine ⟨fun q => ?_, fun q i => ?_, fun q i h => h3 q i (hasKey_inc st a q idx f i h),
      fun hw => h4 (StatsWf_inc n st a idx f hw hidx)⟩
    · rw [h1, freqOf_inc, Nat.add_assoc, ← Nat.mul_add, ← cnt_append]; rfl
    · rw [h2, occOf_inc]
      by_cases hi : idx = i
      · simp only [if_pos hi]; rw [Nat.add_assoc, ← cnt_append]; rfl
      · simp only [if_neg hi]

theorem StatsWf_mono (n n' : Nat) (st : Stats) (h : StatsWf n st) (hn : n ≤ n') : StatsWf n' st :=
  ⟨h.1, fun q info hq => ⟨(h.2 q info hq).1, fun i hi => Nat.lt_of_lt_of_le ((h.2 q info hq).2 i hi) hn⟩⟩

def wcount (c : Corpus) (i : Nat) (q : BPair) : Nat := wordPairCount (c.getD i ([], 0)).1 q

theorem wcount_cons_zero (e : List Tok × Nat) (r : Corpus) (q : BPair) : wcount (e :: r) 0 q = cnt q (wordPairs e.1) := rfl
theorem wcount_cons_succ (e : List Tok × Nat) (r : Corpus) (i : Nat) (q : BPair) : wcount (e :: r) (i + 1) q = wcount r i q := rfl
theorem wcount_eq (c : Corpus) (i : Nat) (q : BPair) :
    wcount c i q = ((c[i]?).map fun e => cnt q (wordPairs e.1)).getD 0 := by
  unfold wcount
  rw [List.getD_eq_getElem?_getD]
  cases c[i]? <;> rfl
theorem wcount_of_get (c : Corpus) (i : Nat) (q : BPair) (w : List Tok) (f : Nat) (h : c[i]? = some (w, f)) :
    wcount c i q = cnt q (wordPairs w) := by
  rw [wcount_eq, h]; rfl

theorem pairFreq_set (q : BPair) : ∀ (c : Corpus) (i : Nat) (w nw : List Tok) (f : Nat), c[i]? = some (w, f) →
    pairFreq (c.set i (nw, f)) q + f * cnt q (wordPairs w) = pairFreq c q + f * cnt q (wordPairs nw) ∧
      f * cnt q (wordPairs w) ≤ pairFreq c q := by
  intro c
  induction c with
  | nil => intro i w nw f h; simp at h
  | cons e r ih =>
    intro i w nw f h
    obtain ⟨w0, n0⟩ := e
    cases i with
    | zero =>
      simp only [List.getElem?_cons_zero, Option.some.injEq, Prod.mk.injEq] at h
      obtain ⟨rfl, rfl⟩ := h
      rw [List.set_cons_zero, pairFreq_cons, pairFreq_cons]
      omega
    | succ i =>
      simp only [List.getElem?_cons_succ] at h
      rw [List.set_cons_succ, pairFreq_cons, pairFreq_cons]
      have := ih i w nw f h
      omega

theorem wcount_set (c : Corpus) (i j : Nat) (e : List Tok × Nat) (q : BPair) (hi : i < c.length) :
    wcount (c.set i e) j q = if i = j then cnt q (wordPairs e.1) else wcount c j q := by
  rw [wcount_eq, wcount_eq, List.getElem?_set]
  by_cases h : i = j
  · subst h; rw [if_pos rfl, if_pos hi, if_pos rfl]; rfl
  · rw [if_neg h, if_neg h]

/-- the statistics describe the corpus exactly (map-style formulation of `statsExact`) -/
def StatsOk (c : Corpus) (st : Stats) : Prop :=
  StatsWf c.length st ∧ ∀ q, freqOf st q = pairFreq c q ∧ ∀ i, occOf st q i = wcount c i q

theorem bytePairStatsWord_eq (idx f : Nat) : ∀ (L : List BPair) (st : Stats),
    bytePairStatsWord st idx f L = applyIncs idx f L st := by
  intro L
  induction L with
  | nil => intro st; rfl
  | cons q qs ih => intro st; rw [bytePairStatsWord, ih]; rfl

theorem StatsOk_snoc (done : Corpus) (w : List Tok) (f : Nat) (st : Stats) (h : StatsOk done st) :
    StatsOk (done ++ [(w, f)]) (applyIncs done.length f (wordPairs w) st) := by
  obtain ⟨h1, h2, h3, h4⟩ := applyIncs_effect (done.length + 1) done.length f (by omega) (wordPairs w) st
  refine ⟨?_, ?_⟩
  · rw [List.length_append, List.length_singleton]
    exact h4 (StatsWf_mono _ _ st h.1 (by omega))
  · intro q
    refine ⟨?_, ?_⟩
    · rw [h1, (h.2 q).1, pairFreq_append, pairFreq_cons, pairFreq_nil]; omega
    · intro i
      rw [h2, (h.2 q).2, wcount_eq, wcount_eq]
      by_cases hi : done.length = i
      · subst hi
        rw [if_pos rfl, List.getElem?_eq_none (Nat.le_refl _), List.getElem?_append_right (Nat.le_refl _), Nat.sub_self]
        exact Nat.zero_add _
      · rw [if_neg hi]
        by_cases hlt : i < done.length
        · rw [List.getElem?_append_left hlt]
        · rw [List.getElem?_eq_none (by omega), List.getElem?_eq_none (by simp; omega)]

theorem bytePairStatsFrom_ok : ∀ (r done : Corpus) (st : Stats), StatsOk done st →
    StatsOk (done ++ r) (bytePairStatsFrom r done.length st) := by
  intro r
  induction r with
  | nil => intro done st h; rw [List.append_nil]; exact h
  | cons e r ih =>
    intro done st h
    obtain ⟨w, f⟩ := e
    rw [bytePairStatsFrom, bytePairStatsWord_eq]
    have := ih (done ++ [(w, f)]) _ (StatsOk_snoc done w f st h)
    simp only [List.length_append, List.length_singleton, List.append_assoc, List.singleton_append] at this
    exact this

theorem StatsOk_empty : StatsOk [] [] := by
  refine ⟨⟨by simp, ?_⟩, ?_⟩
  · intro q info h; simp [alGet_nil] at h
  · intro q
    refine ⟨rfl, ?_⟩
    intro i
    rfl

end Tu.BpeTrainIncL

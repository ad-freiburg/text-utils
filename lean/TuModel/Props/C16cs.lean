/-
  C16 (CharString part) — the run-length based index arithmetic of `CharString` agrees with prefix
  sums over the cluster byte lengths, and the two substring enumerations built on it return exactly
  the windows they promise.  Model: Model/CharString.lean; lemmas: Lemmas/CharStringL.lean.
-/
import TuModel.Lemmas.CharStringL
namespace Tu.C16cs
open Tu

theorem rld_rle (l : List Nat) : rld (rle l) = l := by
  cases l with
  | nil => rw [rle, rld_nil]
  | cons x xs => rw [rle, rld_rleAux]; rfl

theorem rle_counts_pos (l : List Nat) : ∀ p ∈ rle l, 0 < p.2 := by
  cases l with
  | nil => intro p hp; rw [rle] at hp; cases hp
  | cons x xs => rw [rle]; exact rleAux_counts_pos xs x 1 (by omega)

theorem rle_count_sum (l : List Nat) : ((rle l).map (·.2)).sum = l.length := by
  rw [← length_rld, rld_rle]

/-- canonical: neighbouring runs carry different values -/
theorem rle_adjacent_ne (l : List Nat) : ∀ i, (h : i + 1 < (rle l).length) →
    ((rle l)[i]'(by omega)).1 ≠ ((rle l)[i+1]'h).1 := by
  cases l with
  | nil => exact fun i h => absurd h (Nat.not_lt_zero _)
  | cons x xs =>
    exact fun i h => rleAux_adjacent_ne xs x 1 i _ _ (List.getElem?_eq_getElem _) (List.getElem?_eq_getElem h)

/-! ### `byte_start_end` on the encoded lengths = prefix sums; panics exactly out of range -/

theorem byteStartEnd_rle (l : List Nat) (n : Nat) (h : n < l.length) :
    byteStartEnd (rle l) n = some (byteOf l n, byteOf l (n + 1)) := by
  rw [byteStartEnd_spec, rld_rle, if_pos h]

theorem byteStartEnd_rle_none (l : List Nat) (n : Nat) (h : l.length ≤ n) : byteStartEnd (rle l) n = none := by
  rw [byteStartEnd_spec, rld_rle, if_neg (Nat.not_lt.mpr h)]

theorem charByteLen_rle (l : List Nat) (n : Nat) (h : n < l.length) : charByteLen (rle l) n = some l[n] := by
  unfold charByteLen
  rw [byteStartEnd_rle l n h, byteOf_succ l n h]
  simp

/-! ### `char_range_to_byte_range`: byte and character boundaries denote the same positions -/

theorem charRange_rle (l : List Nat) (s e : Nat) (h : s < e) (he : e ≤ l.length) :
    charRangeToByteRange (rle l) l.length s e = some (byteOf l s, byteOf l e) := by
  unfold charRangeToByteRange
  rw [if_pos ⟨h, he⟩, byteStartEnd_rle l s (Nat.lt_of_lt_of_le h he)]
  cases e with
  | zero => exact absurd h (Nat.not_lt_zero _)
  | succ e =>
    simp only [Nat.add_sub_cancel]
    by_cases h2 : s < e
    · rw [if_pos h2, byteStartEnd_rle l e he]
    · rw [if_neg h2, Nat.le_antisymm (Nat.le_of_lt_succ h) (Nat.le_of_not_lt h2)]

theorem charRange_rle_none (l : List Nat) (s e : Nat) (h : ¬ (s < e ∧ e ≤ l.length)) :
    charRangeToByteRange (rle l) l.length s e = none := by
  unfold charRangeToByteRange
  rw [if_neg h]

theorem csGet_rle (l : List Nat) (n : Nat) :
    csGet (rle l) l.length n = some (if n < l.length then some (byteOf l n, byteOf l (n + 1)) else none) := by
  unfold csGet
  by_cases h : n < l.length
  · rw [if_neg (by omega), if_pos h, byteStartEnd_rle l n h]; rfl
  · rw [if_pos (by omega), if_neg h]

/-- `sub` never panics for start ≤ end (it clamps), and returns the slice between the clamped boundaries -/
theorem csSub_rle (l : List Nat) (s e : Nat) (h : s ≤ e) :
    csSub (rle l) l.length s e =
      some (if min s l.length = min e l.length then (0, 0) else (byteOf l (min s l.length), byteOf l (min e l.length))) := by
  unfold csSub
  rw [if_pos h]
  simp only
  by_cases h1 : min s l.length = min e l.length
  · rw [if_pos (Or.inr h1), if_pos h1]
  · have h0 : l.length ≠ 0 := fun h0 => h1 (by rw [h0, Nat.min_zero, Nat.min_zero])
    rw [if_neg (not_or.mpr ⟨h0, h1⟩), if_neg h1]
    exact charRange_rle l _ _ (Nat.lt_of_le_of_ne (by omega) h1) (Nat.min_le_right ..)

theorem csSub_rle_none (l : List Nat) (s e : Nat) (h : e < s) : csSub (rle l) l.length s e = none := by
  unfold csSub
  rw [if_neg (by omega)]

/-! ### `possible_character_substrings`: all windows of min(max, len) characters, in order -/

theorem possibleCharSubstrings_spec (l : List Nat) (hl : l ≠ []) (m : Nat) (hm : 0 < m) :
    possibleCharSubstrings l m =
      some ((List.range (l.length - min m l.length + 1)).map
        (fun st => (byteOf l st, byteOf l (st + min m l.length), min m l.length))) := by
  have hlen : 0 < l.length := List.length_pos_iff.mpr hl
  unfold possibleCharSubstrings
  rw [if_neg (by simpa using hl)]
  simp only [CStr.new]
  apply allSome_map_some
  intro st hst
  have hst' : st + min m l.length ≤ l.length := by
    have := List.mem_range.mp hst
    omega
  rw [Nat.min_eq_right hst', charRange_rle l st (st + min m l.length) (by omega) hst', Nat.add_sub_cancel_left]
  rfl

/-- max_chars = 0 on a non-empty text trips the assertion of char_range_to_byte_range -/
theorem possibleCharSubstrings_zero (l : List Nat) (hl : l ≠ []) : possibleCharSubstrings l 0 = none := by
  unfold possibleCharSubstrings
  rw [if_neg (by simpa using hl)]
  simp only [CStr.new]
  rw [List.range_succ_eq_map, List.map_cons, charRange_rle_none l 0 _ (by omega)]
  exact allSome_none _

/-! ### `find_subsequences_of_max_size_k` with size = byte sum -/

theorem findSubseqSum_props (l : List Nat) (k : Nat) : ∀ p ∈ findSubseqSum l k,
    p.1 < p.2 ∧ p.2 ≤ l.length ∧ byteOf l p.2 - byteOf l p.1 ≤ k ∧
      (p.2 = l.length ∨ k < byteOf l (p.2 + 1) - byteOf l p.1) := by
  intro p hp
  obtain ⟨h1, h2, h3, h4⟩ := subseqs_emitted (sz := sumSz l) (sumSz_self_le l k) p hp
  rw [sumSz_byteOf l _ _ (by omega)] at h3 h4
  exact ⟨h1, h2, h3, h4⟩

theorem findSubseqSum_sound (l : List Nat) (k s e : Nat) (h : (s, e) ∈ findSubseqSum l k) :
    s < e ∧ e ≤ l.length ∧ byteOf l e - byteOf l s ≤ k := by
  obtain ⟨h1, h2, h3, _⟩ := findSubseqSum_props l k (s, e) h
  exact ⟨h1, h2, h3⟩

/-- right-maximal: the window cannot be extended by the next character -/
theorem findSubseqSum_right_maximal (l : List Nat) (k s e : Nat) (h : (s, e) ∈ findSubseqSum l k) :
    e = l.length ∨ k < byteOf l (e + 1) - byteOf l s :=
  (findSubseqSum_props l k (s, e) h).2.2.2

/-- every fitting window is covered by an emitted one (the enumeration is complete up to inclusion) -/
theorem findSubseqSum_complete (l : List Nat) (k s e : Nat) (hse : s < e) (he : e ≤ l.length)
    (hfit : byteOf l e - byteOf l s ≤ k) : ∃ p ∈ findSubseqSum l k, p.1 ≤ s ∧ e ≤ p.2 :=
  subseqs_covers (sz := sumSz l) (sumSz_self_le l k) (sumSz_mono l) hse he
    (by rwa [sumSz_byteOf l s e (Nat.le_of_lt hse)])

theorem findSubseqSum_empty_iff (l : List Nat) (k : Nat) : findSubseqSum l k = [] ↔ ∀ x ∈ l, k < x := by
  constructor
  · intro h x hx
    obtain ⟨i, hi, rfl⟩ := List.getElem_of_mem hx
    apply Nat.lt_of_not_le
    intro hle
    have hfit : byteOf l (i + 1) - byteOf l i ≤ k := by rw [byteOf_succ l i hi]; omega
    obtain ⟨p, hp, _⟩ := findSubseqSum_complete l k i (i + 1) (by omega) (by omega) hfit
    rw [h] at hp; cases hp
  · intro h
    exact subseqs_eq_nil (sz := sumSz l) fun i hi => by rw [sumSz_one l i hi]; exact h _ (List.getElem_mem hi)

/-- the emitted windows are strictly increasing in both coordinates -/
theorem findSubseqSum_increasing (l : List Nat) (k : Nat) :
    (findSubseqSum l k).Pairwise (fun a b => a.1 < b.1 ∧ a.2 < b.2) :=
  subseqs_increasing (sz := sumSz l) (sumSz_self_le l k)

/-- the fuel 2n+2 of the model's main loop is never exhausted: more fuel gives the same result -/
theorem findSubseqSum_fuel (l : List Nat) (k extra : Nat) (st : Nat)
    (h : firstFit (fun s e => ((l.drop s).take (e - s)).sum) l.length k (l.length + 1) 0 = some st) :
    subseqLoop (fun s e => ((l.drop s).take (e - s)).sum) l.length k (2 * l.length + 2 + extra) st (st + 1)
      (((l.drop st).take 1).sum) [] = findSubseqSum l k := by
  have e : ((l.drop st).take 1).sum = sumSz l st (st + 1) := by rw [sumSz, Nat.add_sub_cancel_left]
  rw [findSubseqSum_eq, subseqs, show firstFit (sumSz l) l.length k (l.length + 1) 0 = some st from h, e]
  exact subseqLoop_fuel (sumSz l) l.length k extra _ _ _ _ _ (by omega)

/-- possible_byte_substrings never panics and is the enumeration converted by prefix sums -/
theorem possibleByteSubstrings_spec (l : List Nat) (hl : l ≠ []) (k : Nat) :
    possibleByteSubstrings l k = some ((findSubseqSum l k).map (fun p => (byteOf l p.1, byteOf l p.2, p.2 - p.1))) := by
  unfold possibleByteSubstrings
  rw [if_neg (by simpa using hl)]
  simp only [CStr.new]
  apply allSome_map_some
  rintro ⟨s, e⟩ hp
  obtain ⟨h1, h2, _⟩ := findSubseqSum_sound l k s e hp
  simp only
  rw [charRange_rle l s e h1 h2]
  rfl

theorem possibleByteSubstrings_fit (l : List Nat) (k : Nat) (r : List (Nat × Nat × Nat)) (hl : l ≠ [])
    (h : possibleByteSubstrings l k = some r) : ∀ t ∈ r, t.2.1 - t.1 ≤ k ∧ 0 < t.2.2 := by
  rw [possibleByteSubstrings_spec l hl k] at h
  injection h with h
  subst h
  intro t ht
  obtain ⟨⟨s, e⟩, hp, rfl⟩ := List.mem_map.mp ht
  obtain ⟨h1, h2, h3⟩ := findSubseqSum_sound l k s e hp
  exact ⟨h3, by simp only; omega⟩

example : rle [1,1,1,2,2,1,4,4,5] = [(1,3),(2,2),(1,1),(4,2),(5,1)] := by decide +kernel
example : rld (rle [1,1,1,2,2,1,4,4,5]) = [1,1,1,2,2,1,4,4,5] := by decide +kernel
example : byteStartEnd (rle [1,1,1,2,2,1,4,4,5]) 4 = some (5, 7) := by decide +kernel
example : byteStartEnd (rle [1,1,1,2,2,1,4,4,5]) 9 = none := by decide +kernel
example : charRangeToByteRange (rle [1,2,1,3]) 4 1 3 = some (1, 4) := by decide +kernel
example : charRangeToByteRange (rle [1,2,1,3]) 4 2 2 = none := by decide +kernel
example : csSub (rle [1,2,1,3]) 4 1 9 = some (1, 7) := by decide +kernel
example : csSub (rle [1,2,1,3]) 4 7 9 = some (0, 0) := by decide +kernel
example : csSub (rle [1,2,1,3]) 4 3 2 = none := by decide +kernel
example : csGet (rle [1,2,1,3]) 4 3 = some (some (4, 7)) := by decide +kernel
example : csGet (rle [1,2,1,3]) 4 4 = some none := by decide +kernel
example : possibleCharSubstrings [1,2,1,3] 2 = some [(0,3,2),(1,4,2),(3,7,2)] := by decide +kernel
example : possibleCharSubstrings [1,2,1,3] 9 = some [(0,7,4)] := by decide +kernel
example : possibleCharSubstrings [1,2,1,3] 0 = none := by decide +kernel
example : findSubseqSum [1,2,1,3] 3 = [(0,2),(1,3),(3,4)] := by decide +kernel
example : possibleByteSubstrings [1,2,1,3] 3 = some [(0,3,2),(1,4,2),(4,7,1)] := by decide +kernel
example : possibleByteSubstrings [4,4] 3 = some [] := by decide +kernel
example : possibleByteSubstrings [4,1,4,2,2] 4 = some [(0,4,1),(4,5,1),(5,9,1),(9,13,2)] := by decide +kernel

end Tu.C16cs

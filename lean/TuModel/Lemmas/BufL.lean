/-
  Invariant of the `Buffered` producer model (`bstep`, Model/Pipe.lean).
-/
import TuModel.Model.Pipe
namespace Tu

/-- the item the producer has pulled but not yet handed over -/
def BPC.pend : BPC → List Nat
  | .have i => [i]
  | _ => []

structure BInv (B n : Nat) (s : BufState) : Prop where
  hB : s.B = B
  hn : s.n = n
  pulled_le : s.pulled ≤ n
  chan_le : s.chan.length ≤ B
  fifo : s.dropped = false → s.recvd ++ s.chan ++ s.pc.pend = List.range s.pulled
  exited_ : s.dropped = false → s.pc = .exited → s.pulled = n
  closed_ : s.closed = true → s.pc = .exited ∧ s.chan = [] ∧ s.dropped = false

theorem binv_step {B n : Nat} {s s' : BufState} (a : BAction) (h : BInv B n s) (hs : bstep s a = some s') :
    BInv B n s' := by
  have hpl := h.pulled_le
  -- the producer is not `exited` before any of its own steps, so the state is not `closed`
  have ncl : ∀ {q : BPC}, s.pc = q → q ≠ .exited → s.closed = true → False := fun e hq hc => hq (e ▸ (h.closed_ hc).1)
  cases a with
  | pull =>
    simp only [bstep] at hs
    split at hs
    · rename_i hpc
      split at hs
      · injection hs with hs; subst hs
        exact { h with
          pulled_le := by have := h.hn; dsimp only; omega
          fifo := fun hd => by
            have := h.fifo hd
            rw [hpc] at this; simp only [BPC.pend, List.append_nil] at this
            simp only [BPC.pend]; rw [this, List.range_succ]
          exited_ := fun _ hc => nomatch hc
          closed_ := fun hc => (ncl hpc nofun hc).elim }
      · injection hs with hs; subst hs
        exact { h with
          fifo := fun hd => by have := h.fifo hd; rw [hpc] at this; exact this
          exited_ := fun _ _ => by have := h.hn; dsimp only; omega
          closed_ := fun hc => (ncl hpc nofun hc).elim }
    · cases hs
  | send =>
    cases hpc : s.pc with
    | idle => simp only [bstep, hpc, reduceCtorEq] at hs
    | exited => simp only [bstep, hpc, reduceCtorEq] at hs
    | «have» i =>
      simp only [bstep, hpc] at hs
      by_cases hd : s.dropped = true
      · rw [if_pos hd] at hs
        injection hs with hs; subst hs
        exact { h with
          fifo := fun hd' => nomatch hd.symm.trans hd'
          exited_ := fun hd' => nomatch hd.symm.trans hd'
          closed_ := fun hc => (ncl hpc nofun hc).elim }
      · rw [if_neg hd] at hs
        have hd : s.dropped = false := Bool.eq_false_iff.mpr hd
        have hf := h.fifo hd
        rw [hpc] at hf
        by_cases hB0 : s.B = 0
        · -- rendezvous: the channel is empty and the item goes straight to the consumer
          rw [if_pos hB0] at hs
          by_cases hc : s.closed = true
          · rw [if_pos hc] at hs; cases hs
          · rw [if_neg hc] at hs
            injection hs with hs; subst hs
            have hch : s.chan = [] := List.eq_nil_of_length_eq_zero (by have := h.chan_le; rw [← h.hB, hB0] at this; omega)
            exact { h with
              fifo := fun _ => by rw [hch] at hf ⊢; simpa [BPC.pend] using hf
              exited_ := fun _ hc => nomatch hc
              closed_ := fun hc => (ncl hpc nofun hc).elim }
        · rw [if_neg hB0] at hs
          by_cases hlen : s.chan.length < s.B
          · rw [if_pos hlen] at hs
            injection hs with hs; subst hs
            exact { h with
              chan_le := by rw [List.length_append]; exact h.hB ▸ hlen
              fifo := fun _ => by simp only [BPC.pend, List.append_nil]; rw [← List.append_assoc]; exact hf
              exited_ := fun _ hc => nomatch hc
              closed_ := fun hc => (ncl hpc nofun hc).elim }
          · rw [if_neg hlen] at hs; cases hs
  | recv =>
    simp only [bstep] at hs
    split at hs
    · cases hs
    · rename_i hdc
      simp only [Bool.or_eq_true, not_or, Bool.not_eq_true] at hdc
      split at hs
      · rename_i x rest hch
        injection hs with hs; subst hs
        have hf := h.fifo hdc.1
        have hcl := h.chan_le
        rw [hch] at hf hcl
        exact { h with
          chan_le := Nat.le_of_succ_le hcl
          fifo := fun _ => by rw [← hf]; simp
          closed_ := fun hc => nomatch hdc.2.symm.trans hc }
      · cases hs
  | close =>
    simp only [bstep] at hs
    split at hs
    · rename_i hg
      injection hs with hs; subst hs
      simp only [Bool.and_eq_true, Bool.not_eq_true', List.isEmpty_iff, beq_iff_eq] at hg
      exact { h with closed_ := fun _ => ⟨hg.2, hg.1.2, hg.1.1.1⟩ }
    · cases hs
  | drop =>
    simp only [bstep] at hs
    split at hs
    · cases hs
    · rename_i hdc
      simp only [Bool.or_eq_true, not_or, Bool.not_eq_true] at hdc
      injection hs with hs; subst hs
      exact { h with
        fifo := fun hd => nomatch hd
        exited_ := fun hd => nomatch hd
        closed_ := fun hc => nomatch hdc.2.symm.trans hc }

theorem binv_reach {B n : Nat} {s : BufState} (h : BReach B n s) : BInv B n s := by
  induction h with
  | init => constructor <;> simp [BufState.init, BPC.pend]
  | step a _ hs ih => exact binv_step a ih hs

end Tu

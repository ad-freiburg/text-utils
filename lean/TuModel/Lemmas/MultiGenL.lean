/-
  Lemmas about the `MultiTrainDataGenerator` model (Model/MultiGen.lean): the state invariant, `nextIdx`
  re-establishes it, and a simulation rule for `mgNext` / `mgDrain` / `mgRun` (`mgRun_sim`) of which the merge
  property (Props/C07.lean), the sequential order and the round-robin order are instances.
-/
import TuModel.Model.MultiGen
import TuModel.Lemmas.ListL
namespace Tu.MultiGenL
open Tu

theorem forall_mem_iff_getD {α : Type} (l : List α) (d : α) (P : α → Prop) (hd : P d) :
    (∀ x ∈ l, P x) ↔ ∀ i, P (l.getD i d) := by
  constructor
  · intro h i
    by_cases hi : i < l.length
    · exact h _ (getD_mem _ _ _ hi)
    · rw [getD_of_le _ _ _ (Nat.le_of_not_lt hi)]; exact hd
  · intro h x hx
    obtain ⟨i, hi, rfl⟩ := List.mem_iff_getElem.mp hx
    rw [← getD_eq_getElem _ _ d hi]; exact h i

theorem totalItems_nil : totalItems [] = 0 := rfl
theorem totalItems_cons (s : List Nat) (l : List (List Nat)) :
    totalItems (s :: l) = s.length + totalItems l := by
  simp [totalItems]

theorem totalItems_set (srcs : List (List Nat)) (i : Nat) (x : Nat) (rest : List Nat)
    (h : srcs.getD i [] = x :: rest) : totalItems (srcs.set i rest) + 1 = totalItems srcs := by
  induction srcs generalizing i with
  | nil => cases h
  | cons s l ih =>
    cases i with
    | zero =>
      cases (show s = x :: rest from h)
      rw [List.set_cons_zero, totalItems_cons, totalItems_cons, List.length_cons]
      omega
    | succ i =>
      rw [List.set_cons_succ, totalItems_cons, totalItems_cons, Nat.add_assoc, ih i h]

theorem all_empty_iff_getD (srcs : List (List Nat)) :
    (∀ l ∈ srcs, l = []) ↔ ∀ i, srcs.getD i [] = [] :=
  forall_mem_iff_getD srcs [] (· = []) rfl

theorem totalItems_eq_zero (srcs : List (List Nat)) (h : ∀ l ∈ srcs, l = []) : totalItems srcs = 0 := by
  induction srcs with
  | nil => rfl
  | cons s l ih =>
    rw [totalItems_cons, ih (fun x hx => h x (List.mem_cons_of_mem _ hx)), h s (List.mem_cons_self ..)]
    rfl

theorem count_false_set (fin : List Bool) (i : Nat) (h : fin.getD i true = false) :
    (fin.set i true).count false + 1 = fin.count false := by
  induction fin generalizing i with
  | nil => cases h
  | cons b l ih =>
    cases i with
    | zero =>
      cases (show b = false from h)
      simp
    | succ i =>
      have := ih i h
      simp only [List.set_cons_succ, List.count_cons]
      omega

theorem all_id_iff (fin : List Bool) : fin.all id = true ↔ ∀ i, fin.getD i true = true :=
  List.all_eq_true.trans (forall_mem_iff_getD fin true (· = true) rfl)

theorem exists_unfinished (fin : List Bool) (h : ¬ fin.all id = true) :
    ∃ j, fin.getD j true = false :=
  have ⟨j, hj⟩ := Classical.not_forall.mp (mt (all_id_iff fin).mpr h)
  ⟨j, Bool.eq_false_iff.mpr hj⟩

theorem nextUnfinished_succ (fin : List Bool) (fuel i : Nat) :
    nextUnfinished fin (fuel+1) i =
      if fin.getD i true then nextUnfinished fin fuel ((i + 1) % fin.length) else i := by
  rw [nextUnfinished]

/-- induction along the cyclic search, `d` steps away from an unfinished index `j`: it ends at an unfinished index,
and a property that a finished index inherits from its cyclic successor is passed back from the result to the start -/
theorem nextUnfinished_walk (fin : List Bool) (P : Nat → Prop)
    (hP : ∀ i, i < fin.length → fin.getD i true = true → P ((i + 1) % fin.length) → P i)
    {j : Nat} (hj : fin.getD j true = false) :
    ∀ (d fuel i : Nat), i < fin.length → (i + d) % fin.length = j → d < fuel →
      fin.getD (nextUnfinished fin fuel i) true = false ∧ (P (nextUnfinished fin fuel i) → P i)
  | _, 0, _, _, _, hd => absurd hd (Nat.not_lt_zero _)
  | d, fuel + 1, i, hi, hij, hd => by
    rw [nextUnfinished_succ]
    cases hv : fin.getD i true with
    | false => exact ⟨hv, id⟩
    | true =>
      cases d with
      | zero =>
        rw [Nat.add_zero, Nat.mod_eq_of_lt hi] at hij
        rw [hij, hj] at hv
        cases hv
      | succ d =>
        obtain ⟨h1, h2⟩ := nextUnfinished_walk fin P hP hj d fuel ((i + 1) % fin.length)
          (Nat.mod_lt _ (Nat.zero_lt_of_lt hi))
          (by rw [Nat.mod_add_mod, Nat.add_assoc, Nat.add_comm 1 d]; exact hij) (Nat.lt_of_succ_lt_succ hd)
        exact ⟨h1, fun h => hP i hi hv (h2 h)⟩

/-- with `fin.length` probes the search reaches an unfinished index whenever there is one -/
theorem nextUnfinished_spec (fin : List Bool) (P : Nat → Prop)
    (hP : ∀ i, i < fin.length → fin.getD i true = true → P ((i + 1) % fin.length) → P i)
    (hex : ∃ j, fin.getD j true = false) (i : Nat) (hi : i < fin.length) :
    fin.getD (nextUnfinished fin fin.length i) true = false ∧ (P (nextUnfinished fin fin.length i) → P i) := by
  obtain ⟨j, hj⟩ := hex
  have hjl : j < fin.length := lt_length_of_getD_ne (by rw [hj]; simp)
  refine nextUnfinished_walk fin P hP hj ((j + fin.length - i) % fin.length) _ i hi ?_
    (Nat.mod_lt _ (Nat.zero_lt_of_lt hi))
  rw [Nat.add_mod_mod, Nat.add_sub_cancel' (by omega), Nat.add_mod_right,
    Nat.mod_eq_of_lt hjl]

theorem weighted_spec (fin : List Bool) (idx c : Nat) (hex : ∃ j, fin.getD j true = false) :
    fin.getD (((List.range fin.length).filter (fun i => !(fin.getD i true))).getD
      (c % ((List.range fin.length).filter (fun i => !(fin.getD i true))).length) idx) true = false := by
  obtain ⟨j, hj⟩ := hex
  have hjl : j < fin.length := lt_length_of_getD_ne (by rw [hj]; simp)
  have hmem : j ∈ (List.range fin.length).filter (fun i => !(fin.getD i true)) := by
    rw [List.mem_filter]
    exact ⟨List.mem_range.mpr hjl, by rw [hj]; rfl⟩
  have := getD_mem _ _ idx (Nat.mod_lt c (List.length_pos_of_mem hmem))
  rw [List.mem_filter] at this
  simpa using this.2

/-- state after yielding the head of the current source (`rest` is what remains of it) -/
def yieldStep (s : Strategy) (g : MG) (rest : List Nat) (c : Nat) : MG :=
  { srcs := g.srcs.set g.idx rest,
    idx := nextIdx s { g with srcs := g.srcs.set g.idx rest } c,
    fin := g.fin }

def marked (g : MG) : MG := { g with fin := g.fin.set g.idx true }

def markStep (s : Strategy) (g : MG) (c : Nat) : MG :=
  { marked g with idx := nextIdx s (marked g) c }

theorem mgNext_succ (s : Strategy) (fuel : Nat) (g : MG) (cs : List Nat) :
    mgNext s (fuel+1) g cs =
      match g.srcs.getD g.idx [] with
      | x :: rest => some ((x, g.idx), yieldStep s g rest (cs.headD 0), cs.tail)
      | [] => if allFinished (marked g) then none else mgNext s fuel (markStep s g (cs.headD 0)) cs.tail := by
  rw [mgNext]; rfl

def Base (g : MG) : Prop :=
  g.fin.length = g.srcs.length ∧ g.fin.getD g.idx true = false ∧
  ∀ i, g.fin.getD i true = true → g.srcs.getD i [] = []

/-- sequential: exactly the sources before the current one are marked finished -/
def SeqExtra (g : MG) : Prop :=
  (∀ i, i < g.idx → g.fin.getD i true = true) ∧
  (∀ i, g.idx ≤ i → i < g.fin.length → g.fin.getD i true = false)

def Inv (s : Strategy) (g : MG) : Prop := Base g ∧ (s = .sequential → SeqExtra g)

theorem Base.idx_lt {g : MG} (h : Base g) : g.idx < g.fin.length :=
  lt_length_of_getD_ne (by rw [h.2.1]; simp)

theorem getD_map_false (srcs : List (List Nat)) (i : Nat) (h : i < srcs.length) :
    (srcs.map (fun _ => false)).getD i true = false :=
  getD_map _ srcs i h [] true

theorem Inv_init (s : Strategy) (srcs : List (List Nat)) (hne : srcs ≠ []) : Inv s (MG.init srcs) := by
  have hpos : 0 < srcs.length := List.length_pos_iff.mpr hne
  refine ⟨⟨by simp [MG.init], getD_map_false srcs 0 hpos, ?_⟩, fun _ => ⟨fun i hi => absurd hi (Nat.not_lt_zero i), ?_⟩⟩
  · intro i hi
    simp only [MG.init] at hi ⊢
    by_cases hl : i < srcs.length
    · rw [getD_map_false srcs i hl] at hi; cases hi
    · exact getD_of_le _ _ _ (Nat.le_of_not_lt hl)
  · intro i _ hi
    exact getD_map_false srcs i (by simpa [MG.init] using hi)

theorem seq_yield_idx (g : MG) (rest : List Nat) (c : Nat) (h : g.fin.getD g.idx true = false) :
    (yieldStep .sequential g rest c).idx = g.idx := by
  simp only [yieldStep, nextIdx, h]
  rfl

theorem marked_getD_self (g : MG) (h : g.idx < g.fin.length) : (marked g).fin.getD g.idx true = true :=
  getD_set_self _ _ _ _ h

theorem marked_getD_ne (g : MG) (i : Nat) (h : g.idx ≠ i) :
    (marked g).fin.getD i true = g.fin.getD i true :=
  getD_set_ne _ _ _ _ _ h

theorem Base.marked_empty {g : MG} (hB : Base g) (hsrc : g.srcs.getD g.idx [] = []) {i : Nat}
    (hi : (marked g).fin.getD i true = true) : g.srcs.getD i [] = [] := by
  by_cases hne : g.idx = i
  · subst hne; exact hsrc
  · exact hB.2.2 i ((marked_getD_ne g i hne).symm.trans hi)

theorem seq_mark_idx (g : MG) (c : Nat) (hI : Inv .sequential g) (hex : ∃ j, (marked g).fin.getD j true = false) :
    (markStep .sequential g c).idx = g.idx + 1 ∧ g.idx + 1 < g.fin.length := by
  obtain ⟨hB, hS⟩ := hI
  have hidx := hB.idx_lt
  obtain ⟨j, hj⟩ := hex
  have hjl : j < (marked g).fin.length := lt_length_of_getD_ne (by rw [hj]; simp)
  have hlen : (marked g).fin.length = g.fin.length := List.length_set
  have hne : g.idx ≠ j := by
    intro e; subst e
    rw [marked_getD_self g hidx] at hj; cases hj
  rw [marked_getD_ne g j hne] at hj
  have hgt : g.idx < j := (Nat.lt_or_gt_of_ne hne).resolve_right fun hn => by
    rw [(hS rfl).1 j hn] at hj; cases hj
  have hlt : g.idx + 1 < g.fin.length := hlen ▸ Nat.lt_of_le_of_lt hgt hjl
  refine ⟨?_, hlt⟩
  show (if (marked g).fin.getD g.idx true = true then (g.idx + 1) % (marked g).fin.length else g.idx)
    = g.idx + 1
  rw [marked_getD_self g hidx, if_pos rfl, hlen, Nat.mod_eq_of_lt hlt]

theorem nextIdx_unfinished (s : Strategy) (g : MG) (c : Nat) (hidx : g.idx < g.fin.length)
    (hex : ∃ j, g.fin.getD j true = false) (hseq : s = .sequential → g.fin.getD (nextIdx .sequential g c) true = false) :
    g.fin.getD (nextIdx s g c) true = false := by
  cases s with
  | sequential => exact hseq rfl
  | interleaved =>
    exact (nextUnfinished_spec g.fin (fun _ => True) (fun _ _ _ _ => trivial) hex _ (Nat.mod_lt _ (Nat.zero_lt_of_lt hidx))).1
  | weighted => exact weighted_spec g.fin g.idx c hex

theorem Inv_yield (s : Strategy) (g : MG) (rest : List Nat) (c : Nat) (hI : Inv s g) :
    Inv s (yieldStep s g rest c) := by
  obtain ⟨⟨hlen, hcur, hemp⟩, hS⟩ := hI
  have hidx : g.idx < g.fin.length := Base.idx_lt ⟨hlen, hcur, hemp⟩
  refine ⟨⟨by simp [yieldStep, hlen], ?_, ?_⟩, ?_⟩
  · refine nextIdx_unfinished s { g with srcs := g.srcs.set g.idx rest } c hidx ⟨_, hcur⟩ fun _ => ?_
    rw [show nextIdx .sequential _ c = g.idx from seq_yield_idx g rest c hcur]
    exact hcur
  · intro i hi
    have hne : g.idx ≠ i := fun e => by rw [← e, show (yieldStep s g rest c).fin = g.fin from rfl, hcur] at hi; cases hi
    exact (getD_set_ne _ _ _ _ _ hne).trans (hemp i hi)
  · intro hs
    subst hs
    unfold SeqExtra
    rw [seq_yield_idx g rest c hcur]
    exact hS rfl

theorem Inv_mark (s : Strategy) (g : MG) (c : Nat) (hI : Inv s g)
    (hsrc : g.srcs.getD g.idx [] = []) (hex : ∃ j, (marked g).fin.getD j true = false) :
    Inv s (markStep s g c) := by
  have hidx : g.idx < g.fin.length := hI.1.idx_lt
  have hmlen : (marked g).fin.length = g.fin.length := List.length_set
  refine ⟨⟨hmlen.trans hI.1.1, ?_, ?_⟩, ?_⟩
  · refine nextIdx_unfinished s (marked g) c (hmlen.symm ▸ hidx) hex fun hs => ?_
    subst hs
    obtain ⟨e, hlt⟩ := seq_mark_idx g c hI hex
    rw [show nextIdx .sequential (marked g) c = g.idx + 1 from e, marked_getD_ne g _ (Nat.ne_of_lt (Nat.lt_succ_self _))]
    exact (hI.2 rfl).2 _ (Nat.le_succ _) hlt
  · exact fun i hi => hI.1.marked_empty hsrc hi
  · intro hs
    subst hs
    obtain ⟨e, hlt⟩ := seq_mark_idx g c hI hex
    obtain ⟨hS1, hS2⟩ := hI.2 rfl
    unfold SeqExtra
    rw [e]
    constructor
    · intro i hi
      show (marked g).fin.getD i true = true
      by_cases hne : g.idx = i
      · subst hne; exact marked_getD_self g hidx
      · rw [marked_getD_ne g i hne]; exact hS1 i (Nat.lt_of_le_of_ne (Nat.le_of_lt_succ hi) (Ne.symm hne))
    · intro i hi1 hi2
      show (marked g).fin.getD i true = false
      rw [marked_getD_ne g i (Nat.ne_of_lt hi1)]
      exact hS2 i (Nat.le_of_succ_le hi1) (hmlen ▸ hi2)

/-! `Q g out` says that `out` is an acceptable complete output from state `g`.  It is enough to show that a yield
prepends the yielded pair, that marking a source finished changes nothing, and that `[]` is acceptable once every
source is empty. -/

section sim
variable {s : Strategy} {Q : MG → List (Nat × Nat) → Prop}
  (yld : ∀ g x rest c, Inv s g → g.srcs.getD g.idx [] = x :: rest → Inv s (yieldStep s g rest c) →
    ∀ out, Q (yieldStep s g rest c) out → Q g ((x, g.idx) :: out))
  (mrk : ∀ g c, Inv s g → g.srcs.getD g.idx [] = [] → (∃ j, (marked g).fin.getD j true = false) →
    Inv s (markStep s g c) → ∀ out, Q (markStep s g c) out → Q g out)
  (stop : ∀ g, (∀ i, g.srcs.getD i [] = []) → Q g [])
include yld mrk stop

/-- one call of `next`: every pass of its loop marks a source finished, so as many passes as there are unfinished
sources suffice -/
theorem mgNext_sim : ∀ (fuel : Nat) (g : MG) (cs : List Nat), Inv s g → g.fin.count false ≤ fuel →
      (mgNext s fuel g cs = none ∧ Q g []) ∨
      (∃ y g' cs', mgNext s fuel g cs = some (y, g', cs') ∧ Inv s g' ∧
        totalItems g'.srcs + 1 = totalItems g.srcs ∧ ∀ out, Q g' out → Q g (y :: out)) := by
  intro fuel
  induction fuel with
  | zero =>
    intro g cs hI hc
    rw [← count_false_set g.fin g.idx hI.1.2.1] at hc
    exact absurd hc (Nat.not_succ_le_zero _)
  | succ fuel ih =>
    intro g cs hI hc
    rw [mgNext_succ]
    cases hsrc : g.srcs.getD g.idx [] with
    | cons x rest =>
      have hI' := Inv_yield s g rest (cs.headD 0) hI
      exact Or.inr ⟨_, _, _, rfl, hI', totalItems_set _ _ _ _ hsrc, yld g x rest _ hI hsrc hI'⟩
    | nil =>
      simp only
      by_cases hall : allFinished (marked g) = true
      · rw [if_pos hall]
        exact Or.inl ⟨rfl, stop g fun i => hI.1.marked_empty hsrc ((all_id_iff _).mp hall i)⟩
      · rw [if_neg hall]
        have hex := exists_unfinished _ hall
        have hI' := Inv_mark s g (cs.headD 0) hI hsrc hex
        have h2 := mrk g (cs.headD 0) hI hsrc hex hI'
        rw [← count_false_set g.fin g.idx hI.1.2.1] at hc
        rcases ih (markStep s g (cs.headD 0)) cs.tail hI' (Nat.le_of_succ_le_succ hc) with
          ⟨e, q⟩ | ⟨y, g', cs', e, hI'', ht, q⟩
        · exact Or.inl ⟨e, h2 _ q⟩
        · exact Or.inr ⟨y, g', cs', e, hI'', ht, fun out ho => h2 _ (q out ho)⟩

theorem mgDrain_sim : ∀ (fuel : Nat) (g : MG) (cs : List Nat), Inv s g → totalItems g.srcs < fuel →
    Q g (mgDrain s fuel g cs) := by
  intro fuel
  induction fuel with
  | zero => intro g cs _ h; exact absurd h (Nat.not_lt_zero _)
  | succ fuel ih =>
    intro g cs hI hf
    rw [mgDrain]
    have hc : g.fin.count false ≤ g.srcs.length + 1 := Nat.le_succ_of_le (hI.1.1 ▸ List.count_le_length)
    rcases mgNext_sim yld mrk stop _ g cs hI hc with ⟨e, q⟩ | ⟨y, g', cs', e, hI', ht, q⟩
    · rw [e]; exact q
    · rw [e]
      rw [← ht] at hf
      exact q _ (ih g' cs' hI' (Nat.lt_of_succ_lt_succ hf))

theorem mgRun_sim (srcs : List (List Nat)) (cs : List Nat) : Q (MG.init srcs) (mgRun s srcs cs) := by
  by_cases hne : srcs = []
  · subst hne
    exact stop _ fun _ => rfl
  · exact mgDrain_sim yld mrk stop _ _ cs (Inv_init s srcs hne) (Nat.lt_succ_self _)

end sim

/-- `seqSpec` with tags starting at `i` -/
def seqFrom (i : Nat) (l : List (List Nat)) : List (Nat × Nat) :=
  (l.zipIdx i).flatMap (fun (s, k) => s.map (fun x => (x, k)))

theorem seqSpec_eq (srcs : List (List Nat)) : seqSpec srcs = seqFrom 0 srcs := rfl

theorem seqFrom_nil (i : Nat) : seqFrom i [] = [] := rfl

theorem seqFrom_cons (i : Nat) (s : List Nat) (l : List (List Nat)) :
    seqFrom i (s :: l) = s.map (fun x => (x, i)) ++ seqFrom (i + 1) l := by
  simp [seqFrom, List.zipIdx_cons, List.flatMap_cons]

theorem seqFrom_empty (i : Nat) (l : List (List Nat)) (h : ∀ s ∈ l, s = []) : seqFrom i l = [] := by
  induction l generalizing i with
  | nil => rfl
  | cons s l ih =>
    rw [seqFrom_cons, h s (List.mem_cons_self ..), ih _ (fun t ht => h t (List.mem_cons_of_mem _ ht))]
    rfl

theorem mgRun_sequential (srcs : List (List Nat)) (cs : List Nat) :
    mgRun .sequential srcs cs = seqSpec srcs := by
  refine mgRun_sim (Q := fun g out => out = seqFrom g.idx (g.srcs.drop g.idx)) ?_ ?_ ?_ srcs cs
  · intro g x rest c hI hsrc _ out hout
    have hidx : g.idx < g.srcs.length := hI.1.1 ▸ hI.1.idx_lt
    rw [seq_yield_idx g rest c hI.1.2.1] at hout
    rw [hout]
    show (x, g.idx) :: seqFrom g.idx (List.drop g.idx (g.srcs.set g.idx rest)) = _
    rw [List.drop_set, if_neg (Nat.lt_irrefl _), Nat.sub_self, drop_eq_getD_cons g.srcs g.idx [] hidx, hsrc,
      List.set_cons_zero, seqFrom_cons, seqFrom_cons]
    rfl
  · intro g c hI hsrc hex _ out hout
    have hidx : g.idx < g.srcs.length := hI.1.1 ▸ hI.1.idx_lt
    rw [(seq_mark_idx g c hI hex).1] at hout
    rw [hout, drop_eq_getD_cons g.srcs g.idx [] hidx, hsrc, seqFrom_cons]
    rfl
  · intro g h
    exact (seqFrom_empty _ _ fun s hs => (all_empty_iff_getD g.srcs).mpr h s (List.mem_of_mem_drop hs)).symm

/-- the heads of the non-empty sources, tagged from `i` on: one row of the round robin -/
def heads (i : Nat) (l : List (List Nat)) : List (Nat × Nat) :=
  (l.zipIdx i).filterMap (fun (s, k) => s.head?.map (fun x => (x, k)))

theorem rrSpec_succ (f : Nat) (srcs : List (List Nat)) :
    rrSpec (f+1) srcs =
      if srcs.all List.isEmpty then [] else heads 0 srcs ++ rrSpec f (srcs.map List.tail) := by
  rw [rrSpec]; rfl

theorem heads_nil (i : Nat) : heads i [] = [] := rfl

theorem heads_cons_nil (i : Nat) (l : List (List Nat)) : heads i ([] :: l) = heads (i + 1) l := by
  rw [heads, List.zipIdx_cons, List.filterMap_cons]; rfl

theorem heads_cons_cons (i x : Nat) (r : List Nat) (l : List (List Nat)) :
    heads i ((x :: r) :: l) = (x, i) :: heads (i + 1) l := by
  simp [heads, List.zipIdx_cons]

theorem heads_empty (i : Nat) (l : List (List Nat)) (h : ∀ s ∈ l, s = []) : heads i l = [] := by
  induction l generalizing i with
  | nil => rfl
  | cons s l ih =>
    rw [h s (List.mem_cons_self ..), heads_cons_nil, ih _ (fun t ht => h t (List.mem_cons_of_mem _ ht))]

theorem all_isEmpty_iff (srcs : List (List Nat)) :
    srcs.all List.isEmpty = true ↔ ∀ l ∈ srcs, l = [] := by
  simp only [List.all_eq_true, List.isEmpty_iff]

theorem totalItems_tail_le (srcs : List (List Nat)) : totalItems (srcs.map List.tail) ≤ totalItems srcs := by
  induction srcs with
  | nil => exact Nat.le_refl _
  | cons s l ih =>
    rw [List.map_cons, totalItems_cons, totalItems_cons, List.length_tail]; omega

theorem totalItems_tail_lt (srcs : List (List Nat)) (h : ¬ srcs.all List.isEmpty = true) :
    totalItems (srcs.map List.tail) < totalItems srcs := by
  induction srcs with
  | nil => simp at h
  | cons s l ih =>
    rw [List.map_cons, totalItems_cons, totalItems_cons, List.length_tail]
    have hle := totalItems_tail_le l
    cases s with
    | nil =>
      have : ¬ l.all List.isEmpty = true := by
        intro hl; apply h; simp [hl]
      have := ih this
      simp; omega
    | cons x r => simp; omega

theorem rrSpec_fuel : ∀ (f f' : Nat) (srcs : List (List Nat)), totalItems srcs < f → totalItems srcs < f' →
    rrSpec f srcs = rrSpec f' srcs := by
  intro f
  induction f with
  | zero => intro f' srcs h; omega
  | succ f ih =>
    intro f' srcs h h'
    cases f' with
    | zero => omega
    | succ f' =>
      rw [rrSpec_succ, rrSpec_succ]
      by_cases he : srcs.all List.isEmpty = true
      · simp only [he, if_true]
      · simp only [he]
        have := totalItems_tail_lt srcs he
        rw [ih f' _ (by omega) (by omega)]

/-- `rrSpec` with sufficient fuel -/
def rrTot (srcs : List (List Nat)) : List (Nat × Nat) := rrSpec (totalItems srcs + 1) srcs

theorem rrTot_unfold (srcs : List (List Nat)) :
    rrTot srcs = if srcs.all List.isEmpty then [] else heads 0 srcs ++ rrTot (srcs.map List.tail) := by
  unfold rrTot
  rw [rrSpec_succ]
  by_cases he : srcs.all List.isEmpty = true
  · simp only [he, if_true]
  · simp only [he]
    have := totalItems_tail_lt srcs he
    rw [rrSpec_fuel (totalItems srcs) (totalItems (srcs.map List.tail) + 1) _ this (Nat.lt_succ_self _)]

theorem rrTot_empty (srcs : List (List Nat)) (h : ∀ l ∈ srcs, l = []) : rrTot srcs = [] := by
  rw [rrTot_unfold, (all_isEmpty_iff srcs).mpr h]; rfl

/-- the remaining output in the middle of a row: the rest of the current row from position `i`, then the following
rows -/
def RRs (i : Nat) (srcs : List (List Nat)) : List (Nat × Nat) :=
  heads i (srcs.drop i) ++ rrTot (srcs.take i ++ (srcs.drop i).map List.tail)

theorem RRs_ge (i : Nat) (srcs : List (List Nat)) (h : srcs.length ≤ i) : RRs i srcs = rrTot srcs := by
  unfold RRs
  rw [List.drop_of_length_le h, List.take_of_length_le h]
  simp [heads_nil]

theorem RRs_empty (i : Nat) (srcs : List (List Nat)) (h : ∀ l ∈ srcs, l = []) : RRs i srcs = [] := by
  unfold RRs
  rw [heads_empty _ _ fun s hs => h s (List.mem_of_mem_drop hs), rrTot_empty]
  · rfl
  · intro l hl
    rcases List.mem_append.mp hl with hl | hl
    · exact h l (List.mem_of_mem_take hl)
    · obtain ⟨t, ht, rfl⟩ := List.mem_map.mp hl
      rw [h t (List.mem_of_mem_drop ht)]; rfl

/-- the end of a row is the start of the next one -/
theorem RRs_mod (i : Nat) (srcs : List (List Nat)) (h : i ≤ srcs.length) : RRs (i % srcs.length) srcs = RRs i srcs := by
  rcases Nat.lt_or_eq_of_le h with h | h
  · rw [Nat.mod_eq_of_lt h]
  · rw [h, Nat.mod_self, RRs_ge srcs.length srcs (Nat.le_refl _), rrTot_unfold]
    by_cases he : srcs.all List.isEmpty = true
    · rw [RRs_empty 0 srcs ((all_isEmpty_iff srcs).mp he), he]; rfl
    · simp [RRs, he]

theorem RRs_skip (i : Nat) (srcs : List (List Nat)) (h : srcs.getD i [] = []) :
    RRs i srcs = RRs (i + 1) srcs := by
  by_cases hi : i < srcs.length
  · unfold RRs
    rw [drop_eq_getD_cons srcs i [] hi, h, heads_cons_nil, List.take_succ_eq_append_getElem hi,
      ← getD_eq_getElem srcs i [] hi, h]
    simp
  · rw [RRs_ge i srcs (Nat.le_of_not_lt hi), RRs_ge (i+1) srcs (Nat.le_succ_of_le (Nat.le_of_not_lt hi))]

theorem RRs_yield (i x : Nat) (rest : List Nat) (srcs : List (List Nat)) (h : srcs.getD i [] = x :: rest) :
    RRs i srcs = (x, i) :: RRs (i + 1) (srcs.set i rest) := by
  have hi : i < srcs.length := lt_length_of_getD_ne (d := []) (by rw [h]; simp)
  unfold RRs
  rw [drop_eq_getD_cons srcs i [] hi, h, heads_cons_cons, List.drop_set_of_lt (Nat.lt_succ_self i),
    List.take_succ_eq_append_getElem (by simpa using hi), List.getElem_set_self,
    List.take_set_of_le (Nat.le_refl i)]
  simp

theorem RRs_next (fin : List Bool) (srcs : List (List Nat)) (hlen : fin.length = srcs.length)
    (hemp : ∀ i, fin.getD i true = true → srcs.getD i [] = []) (hex : ∃ j, fin.getD j true = false)
    (i : Nat) (hi : i < fin.length) :
    RRs (i + 1) srcs = RRs (nextUnfinished fin fin.length ((i + 1) % fin.length)) srcs := by
  rw [← RRs_mod _ srcs (hlen ▸ hi), ← hlen]
  exact (nextUnfinished_spec fin
    (fun a => RRs a srcs = RRs (nextUnfinished fin fin.length ((i + 1) % fin.length)) srcs)
    (fun a ha hv h => by rw [RRs_skip a srcs (hemp a hv), ← RRs_mod _ srcs (hlen ▸ ha), ← hlen]; exact h)
    hex ((i + 1) % fin.length) (Nat.mod_lt _ (Nat.zero_lt_of_lt hi))).2 rfl

theorem mgRun_interleaved (srcs : List (List Nat)) (cs : List Nat) :
    mgRun .interleaved srcs cs = rrSpec (totalItems srcs + 1) srcs := by
  have : mgRun .interleaved srcs cs = RRs 0 srcs := by
    refine mgRun_sim (Q := fun g out => out = RRs g.idx g.srcs) ?_ ?_ ?_ srcs cs
    · intro g x rest c hI hsrc hI' out hout
      rw [hout, RRs_yield g.idx x rest g.srcs hsrc]
      exact congrArg _ (RRs_next g.fin _ hI'.1.1 hI'.1.2.2 ⟨_, hI.1.2.1⟩ g.idx hI.1.idx_lt).symm
    · intro g c hI hsrc hex hI' out hout
      rw [hout, RRs_skip g.idx g.srcs hsrc]
      exact (RRs_next (marked g).fin _ hI'.1.1 hI'.1.2.2 hex g.idx (by simpa [marked] using hI.1.idx_lt)).symm
    · intro g h
      exact (RRs_empty _ _ ((all_empty_iff_getD g.srcs).mpr h)).symm
  have h0 := RRs_mod srcs.length srcs (Nat.le_refl _)
  rw [Nat.mod_self] at h0
  rw [this, h0, RRs_ge _ srcs (Nat.le_refl _)]
  rfl

end Tu.MultiGenL

/-
  C04 — tokenizer vocabulary maps are mutually consistent bijections.
  Models: the vocabulary functions of Model/ByteTok.lean, Model/CharTok.lean, Model/Bpe.lean.
-/
import TuModel.Lemmas.BpeWf
import TuModel.Lemmas.SpecialL
import TuModel.Lemmas.Utf8L
namespace Tu.C04
open Tu

/-! ### special tokens: `unique` and the id range -/

theorem uniq_nodup (l : List (List Nat)) : (uniq l).Nodup := by
  induction l with
  | nil => simp [uniq]
  | cons x xs ih =>
    simp only [uniq, List.nodup_cons]
    exact ⟨by simp, ih.filter _⟩

theorem uniq_mem (l : List (List Nat)) (x : List Nat) : x ∈ uniq l ↔ x ∈ l := by
  induction l with
  | nil => simp [uniq]
  | cons y ys ih =>
    simp only [uniq, List.mem_cons, List.mem_filter, ih]
    constructor
    · rintro (h | ⟨h, _⟩); exact Or.inl h; exact Or.inr h
    · rintro (h | h)
      · exact Or.inl h
      · by_cases hxy : x = y
        · exact Or.inl hxy
        · exact Or.inr ⟨h, by simpa using hxy⟩

/-- distinct special tokens get distinct ids, and `token_to_id` inverts `id_to_token` on them -/
theorem special_tokenToId_idToToken (sp : Special) (hn : sp.tokens.Nodup) (id : Nat) (t : List Nat)
    (h : sp.idToToken id = some t) : sp.tokenToId t = some id :=
  tokenToId_of_idToToken hn h

/-- pad, prefix and suffix ids (and every special id) lie in `[offset, offset + |tokens|)` -/
theorem special_id_range (sp : Special) (id : Nat) (h : (sp.idToToken id).isSome = true) :
    sp.offset ≤ id ∧ id < sp.offset + sp.tokens.length :=
  idToToken_isSome h

theorem mkSpecial_range {offset : Nat} {tokens : List (List Nat)} {pad : List Nat} {pre suf : List (List Nat)}
    {sp : Special} (h : mkSpecial offset tokens pad pre suf = some sp) :
    sp.tokens.Nodup ∧
    (∀ id ∈ sp.padId :: (sp.prefixIds ++ sp.suffixIds), offset ≤ id ∧ id < offset + sp.tokens.length) := by
  obtain ⟨ho, ht, hids⟩ := mkSpecial_ids h
  exact ⟨ht ▸ uniq_nodup _, fun id hid => ho ▸ idToToken_isSome (hids id hid)⟩

/-- regular and special ids are disjoint: every special id is at or above the number of regular tokens, in all three tokenizers -/
theorem special_ids_disjoint (sp : Special) (id : Nat) (h : (sp.idToToken id).isSome = true) : sp.offset ≤ id :=
  (special_id_range sp id h).1

/-- with the offsets the constructors set, a regular id of the char / BPE tokenizer is never a special id -/
theorem char_regular_not_special (cfg : CharCfg) (ho : cfg.sp.offset = cfg.alphabet.length) (id : Nat)
    (h : id < cfg.alphabet.length) : cfg.sp.idToToken id = none :=
  if_pos (ho ▸ h)

theorem bpe_regular_not_special (cfg : BpeCfg) (ho : cfg.sp.offset = 256 + cfg.table.length) (id : Nat)
    (h : id < 256 + cfg.table.length) : cfg.sp.idToToken id = none :=
  if_pos (ho ▸ h)

/-! ### byte tokenizer -/

theorem byte_getVocab_length (cfg : ByteCfg) : (byteGetVocab cfg).length = byteVocabSize cfg := by
  simp [byteGetVocab, byteVocabSize]

/-- `id_to_token(id) = get_vocab()[id]`, and `None` from `vocab_size` on -/
theorem byte_idToToken_eq (cfg : ByteCfg) (ho : cfg.sp.offset = 256) (id : Nat) :
    byteIdToToken cfg id = (byteGetVocab cfg)[id]? := by
  rw [byteGetVocab, getElem?_append_tokens _ _ (by simpa using ho), byteIdToToken]
  simp only [List.length_map, List.length_range]
  split
  next h => simp [h]
  next h => rfl

theorem byte_idToToken_none (cfg : ByteCfg) (ho : cfg.sp.offset = 256) (id : Nat) (h : byteVocabSize cfg ≤ id) :
    byteIdToToken cfg id = none := by
  rw [byte_idToToken_eq cfg ho, List.getElem?_eq_none]; rw [byte_getVocab_length]; exact h

/-- `token_to_id` inverts `id_to_token` (no special token is a single byte) -/
theorem byte_tokenToId_idToToken (cfg : ByteCfg) (ho : cfg.sp.offset = 256) (hn : cfg.sp.tokens.Nodup)
    (hd : ∀ t ∈ cfg.sp.tokens, t.length ≠ 1) (id : Nat) (t : List Nat) (h : byteIdToToken cfg id = some t) :
    byteTokenToId cfg t = some id := by
  unfold byteIdToToken at h
  split at h
  · cases h; rfl
  · have hl := hd t (List.mem_of_getElem? (idToToken_eq_some.1 h).2)
    unfold byteTokenToId
    split
    · exact absurd rfl hl
    · exact tokenToId_of_idToToken hn h

/-- decoding a single regular id yields exactly that token's bytes -/
theorem byte_detok_single (cfg : ByteCfg) (ign : Bool) (id : Nat) (h : id < 256) :
    byteDetokBytes cfg.sp ign [id] = byteIdToToken cfg id := by
  simp [byteDetokBytes, byteIdToToken, h]

/-! ### character tokenizer -/

theorem char_getVocab_length (cfg : CharCfg) : (charGetVocab cfg).length = charVocabSize cfg := by
  simp [charGetVocab, charVocabSize]

theorem char_idToToken_eq (cfg : CharCfg) (ho : cfg.sp.offset = cfg.alphabet.length) (id : Nat) :
    charIdToToken cfg id = (charGetVocab cfg)[id]? := by
  rw [charGetVocab, getElem?_append_tokens _ _ (by simpa using ho), charIdToToken, List.length_map,
    List.getElem?_map]
  by_cases h : id < cfg.alphabet.length
  · rw [if_pos h, char_regular_not_special cfg ho id h]
  · rw [if_neg h, List.getElem?_eq_none (Nat.le_of_not_lt h)]
    cases cfg.sp.idToToken id <;> rfl

theorem char_idToToken_none (cfg : CharCfg) (ho : cfg.sp.offset = cfg.alphabet.length) (id : Nat)
    (h : charVocabSize cfg ≤ id) : charIdToToken cfg id = none := by
  rw [char_idToToken_eq cfg ho, List.getElem?_eq_none]; rw [char_getVocab_length]; exact h

/-- the unknown id is a special id: it lies at or above the alphabet -/
theorem char_unk_range (alphabet : List Nat) (tokens : List (List Nat)) (unk pad : List Nat) (pre suf : List (List Nat))
    (cfg : CharCfg) (h : mkCharCfg alphabet tokens unk pad pre suf = some cfg) :
    cfg.alphabet.length ≤ cfg.unkId ∧ cfg.unkId < charVocabSize cfg ∧ cfg.sp.offset = cfg.alphabet.length := by
  unfold mkCharCfg at h
  split at h
  next sp hm =>
    obtain ⟨u, hu, rfl⟩ := Option.map_eq_some_iff.1 h
    have ho := (mkSpecial_ids hm).1
    have := idToToken_isSome (Option.isSome_of_eq_some (idToToken_of_tokenToId hu))
    refine ⟨?_, ?_, ho⟩
    · show alphabet.length ≤ u
      omega
    · show u < alphabet.length + sp.tokens.length
      omega
  next => cases h

/-! ### BPE tokenizer -/

theorem bpe_getVocab_length (cfg : BpeCfg) : (bpeGetVocab cfg).length = bpeVocabSize cfg := by
  simp [bpeGetVocab, bpeVocabSize]; omega

/-- every merge id below the table size has an entry (part of `wfTable`) -/
def idsComplete (t : MTable) : Prop := ∀ k, k < t.length → (tbytes t k).isSome = true

theorem idsComplete_of_wf (t : MTable) (h : wfTable t = true) : idsComplete t :=
  tbytes_isSome_of_wf h

theorem bpe_idToToken_eq (cfg : BpeCfg) (ho : cfg.sp.offset = 256 + cfg.table.length) (hc : idsComplete cfg.table)
    (id : Nat) : bpeIdToToken cfg id = (bpeGetVocab cfg)[id]? := by
  rw [bpeGetVocab, getElem?_append_tokens _ _ (by simpa using ho), bpeIdToToken, bpeIdBytes]
  simp only [List.length_append, List.length_map, List.length_range]
  split
  next h =>
    rw [List.getElem?_append]
    simp only [List.length_map, List.length_range]
    split
    next h1 => simp [h1]
    next h1 =>
      have hk : id - 256 < cfg.table.length := by omega
      obtain ⟨b, hb⟩ := Option.isSome_iff_exists.1 (hc _ hk)
      simp [hk, hb]
  next h => rfl

theorem bpe_idToToken_none (cfg : BpeCfg) (ho : cfg.sp.offset = 256 + cfg.table.length) (hc : idsComplete cfg.table)
    (id : Nat) (h : bpeVocabSize cfg ≤ id) : bpeIdToToken cfg id = none := by
  rw [bpe_idToToken_eq cfg ho hc, List.getElem?_eq_none]; rw [bpe_getVocab_length]; exact h

/-- decoding a single regular id yields exactly that token's bytes -/
theorem bpe_detok_single (cfg : BpeCfg) (ign : Bool) (id : Nat) (h : id < 256 + cfg.table.length) :
    bpeDetokBytes cfg ign [id] = bpeIdToToken cfg id := by
  simp only [bpeDetokBytes, bpeIdToToken, h, if_true]
  cases bpeIdBytes cfg id <;> simp

/-! non-vacuity -/
example : wfTable [([97, 98], 0), ([99, 100], 1), ([97, 98, 99], 2), ([97, 98, 99, 100], 3)] = true := by decide +kernel
example : (mkBpeCfg [([97, 98], 0)] none [[60, 112, 62]] [60, 112, 62] [] []).isSome = true := by decide +kernel

/-! ### `token_to_id` inverts `id_to_token` (character and BPE tokenizers) -/

/-- decoding the UTF-8 encoding of a scalar value gives the value back -/
theorem singleCp_utf8 (c : Nat) (hc : isScalar c = true) : singleCp (utf8 c) = some c :=
  Tu.singleCp_utf8 c hc

/-- char tokenizer, the statement with the hypothesis that is actually needed (and that matches the Rust
`char::from_bytes`): no special token is the UTF-8 encoding of an alphabet character.  `ho` is not used:
`charIdToToken` asks the special vocabulary first, exactly like the Rust code. -/
theorem char_tokenToId_idToToken' (cfg : CharCfg) (hn : cfg.sp.tokens.Nodup)
    (ha : cfg.alphabet.Nodup) (hs : ∀ c ∈ cfg.alphabet, isScalar c = true)
    (hd : ∀ c ∈ cfg.alphabet, utf8 c ∉ cfg.sp.tokens)
    (id : Nat) (t : List Nat) (h : charIdToToken cfg id = some t) : charTokenToId cfg t = some id := by
  unfold charIdToToken at h
  unfold charTokenToId
  split at h
  next t' hsp => cases h; rw [tokenToId_of_idToToken hn hsp]
  next =>
    obtain ⟨c, hc, rfl⟩ := Option.map_eq_some_iff.1 h
    have hcm : c ∈ cfg.alphabet := List.mem_of_getElem? hc
    rw [tokenToId_none_of_not_mem cfg.sp _ (hd c hcm), singleCp_utf8 c (hs c hcm)]
    exact firstIdx_of_getElem? ha hc

/-- char tokenizer: `token_to_id` inverts `id_to_token` on every id (alphabet of distinct scalar values; no special token is the
UTF-8 encoding of a single code point) -/
theorem char_tokenToId_idToToken (cfg : CharCfg) (ho : cfg.sp.offset = cfg.alphabet.length) (hn : cfg.sp.tokens.Nodup)
    (ha : cfg.alphabet.Nodup) (hs : ∀ c ∈ cfg.alphabet, isScalar c = true)
    (hd : ∀ t ∈ cfg.sp.tokens, singleCp t = none)
    (id : Nat) (t : List Nat) (h : charIdToToken cfg id = some t) : charTokenToId cfg t = some id :=
  char_tokenToId_idToToken' cfg hn ha hs
    (fun c hc hm => Option.some_ne_none c ((singleCp_utf8 c (hs c hc)).symm.trans (hd _ hm))) id t h

/-- BPE tokenizer: `token_to_id` inverts `id_to_token` on every id (well-formed table; no special token is a single byte or a table key) -/
theorem bpe_tokenToId_idToToken (cfg : BpeCfg) (ho : cfg.sp.offset = 256 + cfg.table.length) (hwf : wfTable cfg.table = true)
    (hn : cfg.sp.tokens.Nodup)
    (hd : ∀ t ∈ cfg.sp.tokens, t.length ≠ 1 ∧ tlookup cfg.table t = none)
    (id : Nat) (t : List Nat) (h : bpeIdToToken cfg id = some t) : bpeTokenToId cfg t = some id := by
  unfold bpeIdToToken at h
  unfold bpeTokenToId
  split at h
  next h1 =>
    unfold bpeIdBytes at h
    split at h
    next h2 =>
      cases h
      rw [tokenToId_none_of_not_mem cfg.sp _ fun hm => (hd _ hm).1 rfl]
    next h2 =>
      have hl : tlookup cfg.table t = some (id - 256) := tlookup_of_tbytes hwf h
      have hlen : 2 ≤ t.length := wf_key_length hwf _ (tbytes_mem h)
      rw [tokenToId_none_of_not_mem cfg.sp _ fun hm => Option.some_ne_none _ (hl.symm.trans (hd _ hm).2)]
      dsimp only
      split
      next b => simp at hlen
      next => rw [hl]; exact congrArg some (Nat.add_sub_cancel' (Nat.le_of_not_lt h2))
  next h1 => rw [tokenToId_of_idToToken hn h]

/-! non-vacuity of the hypotheses (small concrete configurations) -/

/-- alphabet `a`, `é`, `€`, U+1F600; special tokens `<pad>` and `<unk>` -/
def exCharCfg : CharCfg :=
  { alphabet := [97, 0xE9, 0x20AC, 0x1F600],
    sp := { tokens := [[60, 112, 97, 100, 62], [60, 117, 110, 107, 62]], offset := 4, padId := 4, prefixIds := [], suffixIds := [] },
    unkId := 5 }

example : isScalar 0x20AC = true ∧ singleCp (utf8 0x20AC) = some 0x20AC := by decide +kernel
example : isScalar 0x10FFFF = true ∧ isScalar 0xD7FF = true ∧ isScalar 0xE000 = true ∧ isScalar 0xD800 = false := by decide +kernel
example : [0, 0x7F, 0x80, 0x7FF, 0x800, 0xD7FF, 0xE000, 0xFFFF, 0x10000, 0x10FFFF].all
    (fun c => isScalar c && singleCp (utf8 c) == some c) = true := by decide +kernel

example : exCharCfg.sp.offset = exCharCfg.alphabet.length ∧ exCharCfg.sp.tokens.Nodup ∧ exCharCfg.alphabet.Nodup ∧
    (∀ c ∈ exCharCfg.alphabet, isScalar c = true) ∧ (∀ t ∈ exCharCfg.sp.tokens, singleCp t = none) := by decide +kernel
example : (List.range 7).map (charIdToToken exCharCfg) =
    [some [97], some [0xC3, 0xA9], some [0xE2, 0x82, 0xAC], some [0xF0, 0x9F, 0x98, 0x80],
     some [60, 112, 97, 100, 62], some [60, 117, 110, 107, 62], none] := by decide +kernel
example : (List.range 6).all (fun id => match charIdToToken exCharCfg id with
    | some t => charTokenToId exCharCfg t == some id
    | none => false) = true := by decide +kernel
/-- the constructor produces such configurations -/
example : (mkCharCfg [97, 0xE9, 0x20AC, 0x1F600] [[60, 112, 97, 100, 62]] [60, 117, 110, 107, 62] [60, 112, 97, 100, 62] [] []).map
    (fun cfg => (cfg.alphabet, cfg.sp.tokens, cfg.sp.offset)) =
    some (exCharCfg.alphabet, exCharCfg.sp.tokens, exCharCfg.sp.offset) := by decide +kernel

/-- `singleCp` has to check that the first byte of a 3- / 4-byte input is a 3- / 4-byte lead, not only
`validUtf8`: three ASCII bytes are valid UTF-8 but not one code point (the Rust `char::from_bytes` answers
`chars.len() != 1`), and the truncated subtraction would "decode" them to code point 0. -/
example : singleCp [60, 112, 62] = none ∧ singleCp [97, 98, 99] = none ∧ singleCp [97, 98, 99, 100] = none ∧
    singleCp [97, 0xC3, 0xA9] = none := by decide +kernel
example :
    let cfg : CharCfg := { alphabet := [0, 97], sp := { tokens := [[60, 117, 110, 107, 62]], offset := 2, padId := 2, prefixIds := [], suffixIds := [] }, unkId := 2 }
    charTokenToId cfg [97, 98, 99] = none ∧ charIdToToken cfg 0 = some [0] := by decide +kernel

/-- the hypotheses of `char_tokenToId_idToToken'` hold with the 3-byte special token `<p>` -/
def exCharCfg' : CharCfg :=
  { alphabet := [97, 0xE9, 0x20AC, 0x1F600],
    sp := { tokens := [[60, 112, 62], [60, 117, 110, 107, 62]], offset := 4, padId := 4, prefixIds := [], suffixIds := [] },
    unkId := 5 }
example : exCharCfg'.sp.tokens.Nodup ∧ exCharCfg'.alphabet.Nodup ∧
    (∀ c ∈ exCharCfg'.alphabet, isScalar c = true) ∧ (∀ c ∈ exCharCfg'.alphabet, utf8 c ∉ exCharCfg'.sp.tokens) := by decide +kernel
example : (List.range 6).all (fun id => match charIdToToken exCharCfg' id with
    | some t => charTokenToId exCharCfg' t == some id
    | none => false) = true := by decide +kernel

def exBpeCfg : BpeCfg :=
  { table := [([97, 98], 0), ([99, 100], 1), ([97, 98, 99], 2), ([97, 98, 99, 100], 3)],
    sp := { tokens := [[60, 112, 62], []], offset := 260, padId := 260, prefixIds := [], suffixIds := [] } }

example : exBpeCfg.sp.offset = 256 + exBpeCfg.table.length ∧ wfTable exBpeCfg.table = true ∧ exBpeCfg.sp.tokens.Nodup ∧
    (∀ t ∈ exBpeCfg.sp.tokens, t.length ≠ 1 ∧ tlookup exBpeCfg.table t = none) := by decide +kernel
example : [97, 255, 256, 259, 260, 261, 262].map (bpeIdToToken exBpeCfg) =
    [some [97], some [255], some [97, 98], some [97, 98, 99, 100], some [60, 112, 62], some [], none] := by decide +kernel
example : [97, 255, 256, 259, 260, 261].all (fun id => match bpeIdToToken exBpeCfg id with
    | some t => bpeTokenToId exBpeCfg t == some id
    | none => false) = true := by decide +kernel

example : (exBpeCfg.sp.idToToken 260).isSome = true ∧ exBpeCfg.sp.offset ≤ 260 := by decide +kernel
example : (exCharCfg.sp.idToToken 5).isSome = true ∧ exCharCfg.sp.offset ≤ 5 := by decide +kernel

/-- the hypothesis `hd` is needed (char): a special token that is the UTF-8 encoding of an alphabet
character shadows that character in `token_to_id` -/
example :
    let cfg : CharCfg := { alphabet := [97, 98], sp := { tokens := [[98]], offset := 2, padId := 2, prefixIds := [], suffixIds := [] }, unkId := 2 }
    charIdToToken cfg 1 = some [98] ∧ charTokenToId cfg [98] = some 2 := by decide +kernel

/-- the hypothesis `hd` is needed (BPE): a special token equal to a table key shadows the merge token -/
example :
    let cfg : BpeCfg := { table := [([97, 98], 0)], sp := { tokens := [[97, 98]], offset := 257, padId := 257, prefixIds := [], suffixIds := [] } }
    bpeIdToToken cfg 256 = some [97, 98] ∧ bpeTokenToId cfg [97, 98] = some 257 := by decide +kernel

end Tu.C04

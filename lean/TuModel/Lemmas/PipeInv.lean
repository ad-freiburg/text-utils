/-
  The inductive invariant `PInv` of the `Pipe` model and its preservation by every action.

  The invariant sees the workers only through sums (`wsum`, Lemmas/PipeL.lean): `Counters` is a statement about the
  counters of a state and those sums.  A move of one worker from `p` to `v` changes every sum by `f v - f p`
  (`wsum_setPc`), so after one rewriting step each move only has to re-establish the clauses whose counters
  it changes; the others are taken over from the state before (`{ g with … }`).
-/
import TuModel.Lemmas.PipeL
namespace Tu

structure Counters (W : Nat) (src : Nat → Bool) (pulls next turn : Nat) (chan recvd : List Nat) (dropped : Bool)
    (calls : Nat → Nat) (ex busy snt failed : Nat) (own front hold : Nat → Nat) : Prop where
  next_eq : next = itemsBefore src pulls
  /-- every `None` ended a worker of its own … -/
  gaps_le : gapsBefore src pulls ≤ ex
  /-- … and while the consumer is there nothing else ends a worker -/
  gaps_eq : dropped = false → ex = gapsBefore src pulls
  /-- no call of `upstream.next()` is made after the `W`-th `None` -/
  pulls_min : ∀ k, k < pulls → gapsBefore src k < W
  count : next = turn + busy
  /-- the items `turn ≤ i < next` have exactly one owner each, all others none -/
  own : ∀ i, (turn ≤ i ∧ i < next ∧ own i = 1) ∨ ((i < turn ∨ next ≤ i) ∧ own i = 0)
  front : ∀ i, i ≠ turn → front i = 0
  chan_le : chan.length ≤ W
  fifo : dropped = false → recvd ++ chan = List.range (turn + snt)
  failed : dropped = false → failed = 0
  calls : ∀ i, (i < next ∧ calls i + hold i = 1) ∨ (next ≤ i ∧ calls i + hold i = 0)

structure PInv (W : Nat) (src : Nat → Bool) (s : PState) : Prop where
  hW : s.W = W
  hsrc : s.src = src
  counters : Counters W src s.pulls s.next s.turn s.chan s.recvd s.dropped s.calls
    (wsum s.W s.pc PC.ex) (wsum s.W s.pc PC.busy) (wsum s.W s.pc PC.snt) (wsum s.W s.pc PC.failed)
    (fun i => wsum s.W s.pc (PC.own i)) (fun i => wsum s.W s.pc (PC.front i)) (fun i => wsum s.W s.pc (PC.hold i))
  closed_ : s.closed = true → (∀ w, w < W → s.pc w = .exited) ∧ s.chan = [] ∧ s.dropped = false

theorem PInv.at_turn {W : Nat} {src : Nat → Bool} {s : PState} (h : PInv W src s) {w i : Nat} (hw : w < s.W)
    (hf : (s.pc w).front i = 1) : i = s.turn :=
  Classical.byContradiction fun hne => by
    have := le_wsum (PC.front i) s.pc hw
    rw [h.counters.front i hne, hf] at this; cases this

theorem PInv.own_range {W : Nat} {src : Nat → Bool} {s : PState} (h : PInv W src s) {w i : Nat} (hw : w < s.W)
    (ho : (s.pc w).own i = 1) : wsum s.W s.pc (PC.own i) = 1 ∧ s.turn ≤ i ∧ i < s.next := by
  have := le_wsum (PC.own i) s.pc hw
  rw [ho] at this
  rcases h.counters.own i with ⟨h1, h2, h3⟩ | ⟨_, h3⟩
  · exact ⟨h3, h1, h2⟩
  · rw [h3] at this; cases this

theorem PInv.own_unique {W : Nat} {src : Nat → Bool} {s : PState} (h : PInv W src s) {w w' i : Nat} (hw : w < s.W)
    (hw' : w' < s.W) (ho : (s.pc w).own i = 1) (ho' : (s.pc w').own i = 1) : w = w' :=
  Classical.byContradiction fun hne => by
    have := pair_le_wsum (PC.own i) s.pc hw hw' hne
    rw [ho, ho', (h.own_range hw ho).1] at this
    cases this with | step h => cases h

theorem PInv.no_sent {W : Nat} {src : Nat → Bool} {s : PState} (h : PInv W src s) {w i : Nat} (hw : w < s.W)
    (hpc : s.pc w = .cleared i) : wsum s.W s.pc PC.snt = 0 := by
  apply Classical.byContradiction
  intro hne
  obtain ⟨u, hu, hp⟩ := exists_of_wsum_pos (Nat.pos_of_ne_zero hne)
  cases hq : s.pc u with
  | sent j ok =>
    -- both own the item `turn`
    have e1 := h.at_turn hu (by rw [hq]; exact if_pos rfl)
    have e2 := h.at_turn hw (by rw [hpc]; exact if_pos rfl)
    have := h.own_unique hu hw (by rw [hq]; exact if_pos e1) (by rw [hpc]; exact if_pos e2)
    rw [this, hpc] at hq; cases hq
  | _ => rw [hq] at hp; cases hp

theorem inv_move {W : Nat} {src : Nat → Bool} {s t : PState} {w : Nat} {a : PAction} {p v : PC}
    (h : PInv W src s) (hw : w < s.W) (hpc : s.pc w = p) (m : Move s w a p v t) :
    PInv W src { t with pc := setPc s.pc w v } := by
  have hle : ∀ f, f p ≤ wsum s.W s.pc f := fun f => hpc ▸ le_wsum f s.pc hw
  have hS : ∀ f, wsum s.W (setPc s.pc w v) f = wsum s.W s.pc f + f v - f p := fun f => by
    have := wsum_setPc f s.pc v hw; rw [hpc] at this; exact Nat.eq_sub_of_add_eq this
  have hcl : s.closed = true → p = .exited := fun hc => hpc ▸ (h.closed_ hc).1 w (h.hW ▸ hw)
  have g := h.counters
  -- the mover has not exited, so fewer than `W` workers have, and one more call of `upstream.next()` is allowed
  have hpm : p.ex = 0 → ∀ k, k < s.pulls + 1 → gapsBefore src k < W := fun hp k hk => by
    by_cases hkp : k = s.pulls
    · subst hkp; exact Nat.lt_of_le_of_lt g.gaps_le (h.hW ▸ wsum_ex_lt s.pc hw (hpc ▸ hp))
    · exact g.pulls_min k (Nat.lt_of_le_of_ne (Nat.le_of_lt_succ hk) hkp)
  cases m
  all_goals refine ⟨h.hW, h.hsrc, ?_, fun hc => nomatch hcl hc⟩
  -- every sum is the old one, plus or minus 1 where the two program counters differ
  all_goals dsimp only
  all_goals simp only [hS, PC.ex, PC.busy, PC.snt, PC.failed, PC.own, PC.front, PC.hold, Nat.add_zero, Nat.sub_zero,
    Nat.add_sub_cancel]
  case takeSome hs =>
    rw [h.hsrc] at hs
    have hc := g.count
    exact { g with
      next_eq := by rw [itemsBefore_succ_true hs, ← g.next_eq]
      gaps_le := by rw [gapsBefore_succ_true hs]; exact g.gaps_le
      gaps_eq := by rw [gapsBefore_succ_true hs]; exact g.gaps_eq
      pulls_min := hpm rfl
      count := congrArg (· + 1) hc
      own := fun j => by
        by_cases ej : s.next = j
        · subst ej
          rw [if_pos rfl]
          rcases g.own s.next with ⟨_, h2, _⟩ | ⟨_, h3⟩
          · exact absurd h2 (Nat.lt_irrefl _)
          · exact Or.inl ⟨hc ▸ Nat.le_add_right _ _, Nat.lt_succ_self _, congrArg (· + 1) h3⟩
        · rw [if_neg ej]
          rcases g.own j with ⟨h1, h2, h3⟩ | ⟨h1, h3⟩
          · exact Or.inl ⟨h1, Nat.lt_succ_of_lt h2, h3⟩
          · exact Or.inr ⟨h1.imp_right fun h => Nat.lt_of_le_of_ne h ej, h3⟩
      calls := fun j => by
        by_cases ej : s.next = j
        · subst ej
          rw [if_pos rfl]
          rcases g.calls s.next with ⟨h2, _⟩ | ⟨_, h3⟩
          · exact absurd h2 (Nat.lt_irrefl _)
          · exact Or.inl ⟨Nat.lt_succ_self _, congrArg (· + 1) h3⟩
        · rw [if_neg ej]
          rcases g.calls j with ⟨h1, h3⟩ | ⟨h1, h3⟩
          · exact Or.inl ⟨Nat.lt_succ_of_lt h1, h3⟩
          · exact Or.inr ⟨Nat.lt_of_le_of_ne h1 ej, h3⟩ }
  case takeNone hs =>
    rw [h.hsrc] at hs
    exact { g with
      next_eq := by rw [itemsBefore_succ_false hs]; exact g.next_eq
      gaps_le := by rw [gapsBefore_succ_false hs]; exact Nat.succ_le_succ g.gaps_le
      gaps_eq := fun hd => by rw [gapsBefore_succ_false hs, g.gaps_eq hd]
      pulls_min := hpm rfl }
  case compute i =>
    exact { g with
      calls := fun j => by
        have hj : (if i = j then 1 else 0) ≤ wsum s.W s.pc (PC.hold j) := hle (PC.hold j)
        have e : bump s.calls i j + (wsum s.W s.pc (PC.hold j) - if i = j then 1 else 0) =
            s.calls j + wsum s.W s.pc (PC.hold j) := by
          by_cases ej : i = j
          · subst ej; rw [if_pos rfl] at hj ⊢; rw [bump_same]; omega
          · rw [if_neg ej, bump_ne _ (Ne.symm ej)]; rfl
        rw [e]; exact g.calls j }
  case spin =>
    exact { g with front := fun j hj => by rw [if_neg (Ne.symm hj)]; exact g.front j hj }
  case sendFail i hd =>
    exact { g with
      fifo := fun hd' => nomatch hd.symm.trans hd'
      failed := fun hd' => nomatch hd.symm.trans hd' }
  case sendOk i hd hlen =>
    have hit : i = s.turn := h.at_turn hw (by rw [hpc]; exact if_pos rfl)
    have hf := g.fifo hd
    rw [h.no_sent hw hpc] at hf ⊢
    exact { g with
      chan_le := by rw [List.length_append]; exact h.hW ▸ hlen
      fifo := fun _ => by rw [← List.append_assoc, hf, List.range_succ, hit]; rfl }
  case advance i | quit i =>
    have hit : i = s.turn := h.at_turn hw (by rw [hpc]; exact if_pos rfl)
    have hown := h.own_range (i := i) hw (by rw [hpc]; exact if_pos rfl)
    have hb : 1 ≤ wsum s.W s.pc PC.busy := hle PC.busy
    have hsn : 1 ≤ wsum s.W s.pc PC.snt := hle PC.snt
    have hfl := hle PC.failed
    simp only [PC.failed] at hfl
    have hc := g.count
    exact { g with
      gaps_le := by have := g.gaps_le; omega
      gaps_eq := fun hd => by have := g.gaps_eq hd; have := g.failed hd; omega
      count := by omega
      own := fun j => by
        by_cases ej : i = j
        · subst ej; rw [if_pos rfl]
          exact Or.inr ⟨Or.inl (Nat.lt_succ_self _), by rw [hown.1]⟩
        · rw [if_neg ej]
          rcases g.own j with ⟨h1, h2, h3⟩ | ⟨h1, h3⟩
          · exact Or.inl ⟨Nat.lt_of_le_of_ne (hit ▸ h1) ej, h2, h3⟩
          · exact Or.inr ⟨h1.imp_left fun h => Nat.lt_succ_of_lt (hit ▸ h), h3⟩
      front := fun j hj => by
        by_cases ej : i = j
        · subst ej; rw [if_pos rfl]
          exact Nat.sub_eq_zero_of_le (hown.1 ▸ wsum_mono (PC.front_le_own i) s.pc s.W)
        · rw [if_neg ej]
          exact g.front j fun e => ej (hit.trans e.symm)
      fifo := fun hd => by
        rw [show i + 1 + (wsum s.W s.pc PC.snt - 1) = s.turn + wsum s.W s.pc PC.snt by omega]; exact g.fifo hd
      failed := fun hd => by rw [g.failed hd] }

theorem inv_step {W : Nat} {src : Nat → Bool} {s s' : PState} (a : PAction) (h : PInv W src s)
    (hs : pstep s a = some s') : PInv W src s' := by
  have g := h.counters
  cases PStep.of_pstep hs with
  | move hw hpc m => exact inv_move h hw hpc m
  | wait => exact h
  | @recv x rest hd hc hch =>
    have hf := g.fifo hd
    have hl := g.chan_le
    rw [hch] at hf hl
    exact { h with
      counters := { g with
        chan_le := Nat.le_of_succ_le hl
        fifo := fun _ => by rw [List.append_assoc]; exact hf }
      closed_ := fun hc' => nomatch hc.symm.trans hc' }
  | close hd hc hch hall => exact { h with closed_ := fun _ => ⟨h.hW ▸ hall, hch, hd⟩ }
  | drop hd hc =>
    exact { h with
      counters := { g with
        gaps_eq := fun hd' => nomatch hd'
        fifo := fun hd' => nomatch hd'
        failed := fun hd' => nomatch hd' }
      closed_ := fun hc' => nomatch hc.symm.trans hc' }

theorem inv_reach {W : Nat} {src : Nat → Bool} {s : PState} (h : PReach W src s) : PInv W src s := by
  induction h with
  | init =>
    have z : ∀ f : PC → Nat, f .idle = 0 → wsum W (fun _ => .idle) f = 0 := fun f hf => by
      rw [wsum_all (fun _ _ => rfl), hf, Nat.zero_mul]
    refine ⟨rfl, rfl, ?_, fun hc => nomatch hc⟩
    dsimp only [PState.init]
    simp only [z PC.ex rfl, z PC.busy rfl, z PC.snt rfl, z PC.failed rfl, z (PC.own _) rfl, z (PC.front _) rfl,
      z (PC.hold _) rfl]
    exact {
      next_eq := rfl
      gaps_le := Nat.le_refl _
      gaps_eq := fun _ => rfl
      pulls_min := fun _ hk => nomatch hk
      count := rfl
      own := fun i => Or.inr ⟨Or.inr (Nat.zero_le i), rfl⟩
      front := fun _ _ => rfl
      chan_le := Nat.zero_le _
      fifo := fun _ => rfl
      failed := fun _ => rfl
      calls := fun i => Or.inr ⟨Nat.zero_le i, rfl⟩ }
  | step a _ hs ih => exact inv_step a ih hs

end Tu

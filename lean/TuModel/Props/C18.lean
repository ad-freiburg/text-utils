/-
  C18 — word matching is a longest common subsequence; edited words are its complement.
  Model: `Tu.matchWords`, `Tu.editedWords` (Model/Match.lean) on the key sequences of the two texts
  (keys = words, or their lowercase forms under `ignore_case`).
-/
import TuModel.Lemmas.MatchTable
import TuModel.Lemmas.MatchAcceptL
namespace Tu.C18
open Tu

/-- **match_words never reaches its panic branch, returns index pairs strictly increasing in both
coordinates whose words are equal, and their number is the value of the LCS recurrence** -/
theorem matchWords_ok (a b : List (List Nat)) :
    ∃ m, matchWords a b = some m ∧
      m.Pairwise (fun p q => p.1 < q.1 ∧ p.2 < q.2) ∧
      (∀ p ∈ m, p.1 < a.length ∧ p.2 < b.length ∧ a.getD p.1 [] = b.getD p.2 []) ∧
      m.length = lcsR a.reverse b.reverse := by
  obtain ⟨m, hb, hok, hl⟩ := mBacktrace_ok a b (a.length + b.length + 1) a.length b.length [] (Nat.le_refl _)
    (Nat.le_refl _) (Nat.lt_succ_self _) ⟨fun _ h => absurd h List.not_mem_nil, fun _ h => absurd h List.not_mem_nil, .nil⟩
  exact ⟨m, hb, hok.incr, hok.eq, by rw [hl, refL, List.take_length, List.take_length]; rfl⟩

/-- the recurrence value is an upper bound for every common subsequence of the word sequences … -/
theorem lcs_upper (a b m : List (List Nat)) (ha : List.Sublist m a) (hb : List.Sublist m b) :
    m.length ≤ lcsR a.reverse b.reverse := by
  have := lcsR_upper (List.reverse_sublist.mpr ha) (List.reverse_sublist.mpr hb)
  rwa [List.length_reverse] at this

/-- … and is attained: the number of matches is the length of a *longest* common subsequence -/
theorem lcs_attained (a b : List (List Nat)) :
    ∃ m, List.Sublist m a ∧ List.Sublist m b ∧ m.length = lcsR a.reverse b.reverse := by
  obtain ⟨m, h1, h2, h3⟩ := lcsR_attained a.reverse b.reverse
  refine ⟨m.reverse, ?_, ?_, by rw [List.length_reverse, h3]⟩
  · rw [← List.reverse_reverse a]; exact List.reverse_sublist.mpr h1
  · rw [← List.reverse_reverse b]; exact List.reverse_sublist.mpr h2

/-- `edited_words` is exactly the complement of the matching -/
theorem edited_eq_complement (aLen bLen : Nat) (m : List (Nat × Nat)) (i : Nat) :
    (i ∈ (editedWords aLen bLen m).1 ↔ i < aLen ∧ ∀ p ∈ m, p.1 ≠ i) ∧
    (i ∈ (editedWords aLen bLen m).2 ↔ i < bLen ∧ ∀ p ∈ m, p.2 ≠ i) := by
  simp only [editedWords, List.mem_filter, List.mem_range, Bool.not_eq_true', List.contains_eq_mem,
    decide_eq_false_iff_not, List.mem_map, not_exists, not_and]
  constructor <;> trivial

theorem splitAsciiWsAux_words (s cur : List Nat) (hc : ∀ c ∈ cur, isAsciiWs c = false) :
    ∀ w ∈ splitAsciiWsAux s cur, w ≠ [] ∧ ∀ c ∈ w, isAsciiWs c = false := by
  have flush : ∀ cur : List Nat, (∀ c ∈ cur, isAsciiWs c = false) → ¬cur.isEmpty = true →
      cur.reverse ≠ [] ∧ ∀ c ∈ cur.reverse, isAsciiWs c = false :=
    fun cur hc hne => ⟨fun h => hne (by rw [List.reverse_eq_nil_iff.mp h]; rfl), fun c h => hc c (List.mem_reverse.mp h)⟩
  fun_induction splitAsciiWsAux s cur with
  | case1 cur _ => exact fun _ h => absurd h List.not_mem_nil
  | case2 cur hne => exact fun w h => List.mem_singleton.mp h ▸ flush cur hc hne
  | case3 c cs cur _ _ ih => exact ih (fun _ h => absurd h List.not_mem_nil)
  | case4 c cs cur _ hne ih =>
    exact List.forall_mem_cons.mpr ⟨flush cur hc hne, ih (fun _ h => absurd h List.not_mem_nil)⟩
  | case5 c cs cur hws ih => exact ih (List.forall_mem_cons.mpr ⟨Bool.eq_false_iff.mpr hws, hc⟩)

/-- the reported word counts are the numbers of whitespace-separated words: in the model the key
sequences *are* the result of `splitAsciiWs`; their lengths are what is reported. `splitAsciiWs`
yields only non-empty words without ASCII whitespace. -/
theorem splitAsciiWs_words (s : List Nat) : ∀ w ∈ splitAsciiWs s, w ≠ [] ∧ ∀ c ∈ w, isAsciiWs c = false :=
  splitAsciiWsAux_words s [] (by simp)

/-! non-vacuity -/
example : matchWords [[97], [98], [99]] [[98], [120], [99]] = some [(1, 0), (2, 2)] := by decide +kernel
example : lcsR [[99], [98], [97]] [[99], [120], [98]] = 2 := by
  simp [lcsR_cons, lcsR_nil_left, lcsR_nil_right, mCandidates, maxByFst]

/-! ## the relational acceptance test `matchAccept` (used by the correspondence check) -/

/-- `match_words` always returns (no panic branch): `matchWords a b` is `some _` -/
theorem matchWords_isSome (a b : List (List Nat)) : ∃ m, matchWords a b = some m := by
  obtain ⟨m, h, _⟩ := matchWords_ok a b
  exact ⟨m, h⟩

/-- the length compared against by `matchAccept` is the value of the LCS recurrence -/
theorem matchWords_getD_length (a b : List (List Nat)) :
    ((matchWords a b).getD []).length = lcsR a.reverse b.reverse := by
  obtain ⟨m, h, _, _, hl⟩ := matchWords_ok a b
  rw [h]; exact hl

/-- the modelled function's own result is accepted (the acceptance test never refuses the modelled code) -/
theorem matchWords_accepted (a b : List (List Nat)) (m : List (Nat × Nat)) (h : matchWords a b = some m) :
    matchAccept a b m = true := by
  obtain ⟨m', h', hinc, hb, _⟩ := matchWords_ok a b
  rw [h] at h'
  cases h'
  rw [matchAccept_iff]
  exact ⟨hinc, hb, by rw [h]; rfl⟩

/-- what acceptance means: the property's clauses -/
theorem matchAccept_spec (a b : List (List Nat)) (m : List (Nat × Nat)) (h : matchAccept a b m = true) :
    m.Pairwise (fun p q => p.1 < q.1 ∧ p.2 < q.2) ∧
    (∀ p ∈ m, p.1 < a.length ∧ p.2 < b.length ∧ a.getD p.1 [] = b.getD p.2 []) ∧
    -- it is a LONGEST common subsequence: every common subsequence is at most as long
    (∀ c : List (List Nat), List.Sublist c a → List.Sublist c b → c.length ≤ m.length) := by
  obtain ⟨hinc, hb, hl⟩ := (matchAccept_iff a b m).mp h
  refine ⟨hinc, hb, ?_⟩
  intro c ha hb'
  rw [hl, matchWords_getD_length]
  exact lcs_upper a b c ha hb'

/-- and the matched words form a common subsequence of that length (so the number of matches IS the
LCS length) -/
theorem matchAccept_common (a b : List (List Nat)) (m : List (Nat × Nat)) (h : matchAccept a b m = true) :
    ∃ c : List (List Nat), List.Sublist c a ∧ List.Sublist c b ∧ c.length = m.length := by
  obtain ⟨hinc, hb, _⟩ := (matchAccept_iff a b m).mp h
  exact matching_common a b m hinc hb

theorem matchAccept_length (a b : List (List Nat)) (m : List (Nat × Nat)) (h : matchAccept a b m = true) :
    m.length = lcsR a.reverse b.reverse := by
  rw [((matchAccept_iff a b m).mp h).2.2, matchWords_getD_length]

/-- conversely, acceptance is *exactly* the property: every strictly increasing, in-range, equal-word
matching that no common subsequence exceeds is accepted (the test refuses no correct answer) -/
theorem matchAccept_complete (a b : List (List Nat)) (m : List (Nat × Nat))
    (hinc : m.Pairwise (fun p q => p.1 < q.1 ∧ p.2 < q.2))
    (hb : ∀ p ∈ m, p.1 < a.length ∧ p.2 < b.length ∧ a.getD p.1 [] = b.getD p.2 [])
    (hmax : ∀ c : List (List Nat), List.Sublist c a → List.Sublist c b → c.length ≤ m.length) :
    matchAccept a b m = true := by
  -- `m` spells a common subsequence, so it is no longer than the longest; `hmax` for a longest one gives the converse
  obtain ⟨c, ca, cb, cl⟩ := matching_common a b m hinc hb
  obtain ⟨c0, c0a, c0b, c0l⟩ := lcs_attained a b
  have h1 := hmax c0 c0a c0b
  have h2 := lcs_upper a b c ca cb
  exact (matchAccept_iff a b m).mpr ⟨hinc, hb, by rw [matchWords_getD_length]; omega⟩

/-! acceptance examples: a = [x, y, x], b = [x, x] with x = [120], y = [121] -/
example : matchWords [[120], [121], [120]] [[120], [120]] = some [(0, 0), (2, 1)] := by decide +kernel
example : matchAccept [[120], [121], [120]] [[120], [120]] [(0, 0), (2, 1)] = true := by decide +kernel
/-- a non-longest matching is refused -/
example : matchAccept [[120], [121], [120]] [[120], [120]] [(0, 0)] = false := by decide +kernel
/-- a crossing matching is refused -/
example : matchAccept [[120], [121], [120]] [[120], [120]] [(2, 0), (0, 1)] = false := by decide +kernel
/-- unequal words are refused -/
example : matchAccept [[120], [121], [120]] [[120], [120]] [(0, 0), (1, 1)] = false := by decide +kernel
/-- out-of-range indices are refused -/
example : matchAccept [[120], [121], [120]] [[120], [120]] [(0, 0), (2, 2)] = false := by decide +kernel
/-- a second longest matching is accepted too when there are several: a = [x, x], b = [x] -/
example : matchAccept [[120], [120]] [[120]] [(0, 0)] = true ∧ matchAccept [[120], [120]] [[120]] [(1, 0)] = true := by decide +kernel

end Tu.C18

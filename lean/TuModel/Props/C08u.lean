/-
  C08u — the item selection of the loader as the code computes it (`Model/LoaderU.lean`: iterator adaptors
  `enumerate().take(limit).skip(..).step_by(W).filter_map(..)`, `usize` saturation, `u64` wrap-around) refines the
  specification of `Model/Loader.lean` (`selectIdx` / `selectValid` / `minItems` / `itemSeed` in unbounded `Nat`),
  about which the theorems of C08 are stated.
-/
import TuModel.Model.LoaderU
import TuModel.Lemmas.LoaderL
import TuModel.Lemmas.LoaderUL
namespace Tu.C08u
open Tu

theorem U64_pos : 0 < U64 := by unfold U64; omega

theorem satAddU_eq (a b : Nat) : satAddU a b = min (a + b) (U64 - 1) := by
  unfold satAddU
  have := U64_pos
  by_cases h : a + b < U64
  · rw [if_pos h]; omega
  · rw [if_neg h]; omega

theorem satAddU_lt (a b : Nat) (ha : a < U64) (hb : b < U64) : satAddU a b < U64 := by
  rw [satAddU_eq]
  have := U64_pos
  omega

/-- the start of the chain: the sum saturated once -/
theorem satAddU_satAddU (a b c : Nat) : satAddU (satAddU a b) c = min (a + b + c) (U64 - 1) := by
  rw [satAddU_eq, satAddU_eq, ← Nat.add_min_add_right, Nat.min_assoc, Nat.min_eq_right (Nat.le_add_right _ c)]

/-- step_by(w) keeps exactly the elements at positions 0, w, 2w, ... -/
theorem stepBy_eq (w : Nat) (hw : 0 < w) (l : List Nat) :
    stepBy w l = (List.range l.length).filterMap (fun j => if j % w = 0 then l[j]? else none) :=
  Tu.stepBy_eq w hw l

theorem stepBy_range' (w : Nat) (hw : 0 < w) (s n : Nat) :
    stepBy w (List.range' s n) = (List.range' s n).filter (fun i => (i - s) % w == 0) :=
  Tu.stepBy_range' w hw s n

/-- the chain without the `filter_map`, for a range of `M ≤ usize::MAX` items and a start saturated at
`usize::MAX`: exactly the filter of the specification with the unsaturated start -/
theorem chain_core (M start W : Nat) (hW : 0 < W) (hM : M ≤ U64 - 1) :
    stepBy W ((List.range M).drop (min start (U64 - 1)))
      = (List.range M).filter (fun i => decide (start ≤ i) && (i - start) % W == 0) := by
  rw [drop_range, Tu.stepBy_range' W hW, ← filter_ge_range, List.filter_filter]
  apply List.filter_congr
  intro i hi
  rw [List.mem_range] at hi
  by_cases h : start ≤ U64 - 1
  · rw [Nat.min_eq_left h, Bool.and_comm]
  · have h1 : ¬ start ≤ i := by omega
    have h2 : ¬ min start (U64 - 1) ≤ i := by omega
    simp only [h1, h2, decide_false, Bool.false_and, Bool.and_false]

/-- `take(limit.unwrap_or(usize::MAX))` of a corpus that can exist -/
theorem lim_eq (N : Nat) (limit : Option Nat) (hN : N < U64) :
    min (limit.getD (U64 - 1)) N = (match limit with | none => N | some l => min N l) := by
  cases limit with
  | none => exact Nat.min_eq_right (Nat.le_sub_one_of_lt hN)
  | some l => exact Nat.min_comm l N

/-- THE refinement: for every corpus that can exist (fewer than 2^64 lines) and all 64-bit parameters the adaptor
chain with saturating arithmetic delivers exactly the specified indices -/
theorem selectChainU_eq (N skip : Nat) (limit : Option Nat) (ff rank W : Nat) (invalid : List Nat)
    (hN : N < U64) (hs : skip < U64) (hf : ff < U64) (hr : rank < W) (hW : W < U64)
    (hl : ∀ l, limit = some l → l < U64) :
    selectChainU N skip limit ff rank W invalid = some (selectValid N skip limit ff rank W invalid) := by
  have hW0 : 0 < W := by omega
  unfold selectChainU selectValid selectIdx
  rw [if_pos hr]
  show some (List.filter _ (stepBy W (((List.range N).take (limit.getD (U64 - 1))).drop
      (satAddU (satAddU skip ff) rank)))) = _
  rw [satAddU_satAddU, List.take_range]
  have hM : min (limit.getD (U64 - 1)) N ≤ U64 - 1 := by omega
  rw [chain_core _ (skip + ff + rank) W hW0 hM, lim_eq N limit hN]
  rfl

theorem selectChainU_none (N skip : Nat) (limit : Option Nat) (ff rank W : Nat) (invalid : List Nat) (hr : W ≤ rank) :
    selectChainU N skip limit ff rank W invalid = none := by
  unfold selectChainU
  rw [if_neg (by omega)]

theorem minItemsU_eq (N skip : Nat) (limit : Option Nat) (hN : N < U64) :
    minItemsU N skip limit = minItems N skip limit := by
  cases limit with
  | none => show min N (U64 - 1) - skip = N - skip; rw [Nat.min_eq_left (Nat.le_sub_one_of_lt hN)]
  | some l => rfl

theorem itemSeedU_eq (seed : Option Nat) (epoch idx : Nat) :
    itemSeedU seed epoch idx = (seed.getD 0 + epoch + idx) % U64 := by
  unfold itemSeedU wrapAddU
  rw [Nat.mod_add_mod]

theorem itemSeedU_lt (seed : Option Nat) (epoch idx : Nat) : itemSeedU seed epoch idx < U64 := by
  rw [itemSeedU_eq]
  exact Nat.mod_lt _ U64_pos

/-- within one corpus distinct items are processed with distinct seeds (no two indices below 2^64 collide) -/
theorem itemSeedU_inj (seed : Option Nat) (epoch i j : Nat) (hi : i < U64) (hj : j < U64)
    (h : itemSeedU seed epoch i = itemSeedU seed epoch j) : i = j := by
  rw [itemSeedU_eq, itemSeedU_eq] at h
  generalize seed.getD 0 + epoch = a at h
  unfold U64 at *
  omega

/-- a seedless loader behaves exactly like seed 0 -/
theorem itemSeedU_none (epoch idx : Nat) : itemSeedU none epoch idx = itemSeedU (some 0) epoch idx := rfl

/-- the seed of an item depends on the global index only, not on rank, world size, skip or fast-forward -/
theorem itemSeedU_small (seed epoch idx : Nat) (h : seed + epoch + idx < U64) :
    itemSeedU (some seed) epoch idx = itemSeed seed epoch idx := by
  rw [itemSeedU_eq]
  exact Nat.mod_eq_of_lt h

/-! ### checked instances -/

example : selectChainU 20 2 (some 17) 1 1 3 [7, 10] = some [4, 13, 16] := by decide +kernel
example : selectValid 20 2 (some 17) 1 1 3 [7, 10] = [4, 13, 16] := by decide +kernel
example : stepBy 3 (List.range 10) = [0, 3, 6, 9] := by decide +kernel
example : stepBy 1 [5, 6, 7] = [5, 6, 7] := by decide +kernel
/-- the start saturates at `usize::MAX`: nothing is delivered, and nothing overflows -/
example : selectChainU 20 (U64 - 1) none 5 0 1 [] = some [] := by decide +kernel
example : selectValid 20 (U64 - 1) none 5 0 1 [] = [] := by decide +kernel
/-- `rank < world_size` is asserted -/
example : selectChainU 20 0 none 0 3 3 [] = none := by decide +kernel
/-- the seed wraps around -/
example : itemSeedU (some (U64 - 1)) 2 3 = 4 := by decide +kernel
example : itemSeedU none 2 3 = 5 := by decide +kernel
example : minItemsU 20 3 none = 17 := by decide +kernel
example : minItemsU 20 3 (some 10) = 7 := by decide +kernel
example : minItemsU 20 30 (some 10) = 0 := by decide +kernel
/-- the bound `hN` matters: a corpus of 2^64 lines (which cannot exist: `len()` is a `usize`) would be cut to
`usize::MAX` by `take(limit.unwrap_or(usize::MAX))` -/
example : minItemsU U64 0 none = U64 - 1 ∧ minItems U64 0 none = U64 := by decide +kernel
example : minItemsU U64 0 none ≠ minItems U64 0 none := by decide +kernel

end Tu.C08u

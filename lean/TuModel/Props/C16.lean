/-
  C16 — inference windows tile the text exactly and respect the size limits.
  Model: `Tu.charWindows`, `Tu.byteWindows`, `Tu.fullWindows` (Model/Windows.lean) over the vector
  of cluster byte lengths.  Byte boundaries are `byteOf lens k` (the prefix sum), so "byte and
  character boundaries denote the same positions" is how the model *computes* byte boundaries;
  the implementation's run-length based `char_range_to_byte_range` is compared with it on every
  request (and by the harness oracle against an independent prefix sum).
-/
import TuModel.Model.Windows
import TuModel.Lemmas.WindowsUL
namespace Tu.C16
open Tu

/-- the windows partition `[ws, n)`: each starts where the previous ended, none is empty, the last
ends at `n` -/
def Tiles (n : Nat) : Nat → List Win → Prop
  | ws, [] => ws = n
  | ws, w :: rest => w.wStart = ws ∧ w.wStart < w.wEnd ∧ w.wEnd ≤ n ∧ Tiles n w.wEnd rest

/-- context contains the window, lies inside the text, and byte fields are the byte offsets of the
character fields -/
def CtxOK (lens : List Nat) (w : Win) : Prop :=
  w.ctxStart ≤ w.wStart ∧ w.wEnd ≤ w.ctxEnd ∧ w.ctxEnd ≤ lens.length ∧
  w.bCtxStart = byteOf lens w.ctxStart ∧ w.bWStart = byteOf lens w.wStart ∧
  w.bWEnd = byteOf lens w.wEnd ∧ w.bCtxEnd = byteOf lens w.ctxEnd

/-- one step of either window loop: a window `[ws, we)` with context `[cs, ce)` in front of a tiling of
`[we, n)`; `P` is the size limit of the loop -/
theorem tiles_cons {lens : List Nat} {P : Win → Prop} {cs ws we ce : Nat} {rest : List Win}
    (h1 : cs ≤ ws) (h2 : ws < we) (h3 : we ≤ ce) (h4 : ce ≤ lens.length) (hP : P (mkWin lens cs ws we ce))
    (ht : Tiles lens.length we rest) (hc : ∀ w ∈ rest, CtxOK lens w ∧ P w) :
    Tiles lens.length ws (mkWin lens cs ws we ce :: rest) ∧
      ∀ w ∈ mkWin lens cs ws we ce :: rest, CtxOK lens w ∧ P w :=
  ⟨⟨rfl, h2, Nat.le_trans h3 h4, ht⟩,
   List.forall_mem_cons.mpr ⟨⟨⟨h1, h3, h4, rfl, rfl, rfl, rfl⟩, hP⟩, hc⟩⟩

theorem charLoop_ok (lens : List Nat) (maxLen ctx : Nat) (hcfg : 2 * ctx < maxLen) :
    ∀ (k ws : Nat), lens.length - ws = k → ws ≤ lens.length →
      ∃ l, charLoop lens maxLen ctx ws = .ok l ∧ Tiles lens.length ws l ∧
        ∀ w ∈ l, CtxOK lens w ∧ w.ctxEnd - w.ctxStart ≤ maxLen := by
  rintro _ ws - hws
  fun_induction charLoop lens maxLen ctx ws with
  | case1 ws h wl we hp =>
    exact absurd (Nat.lt_min.mpr ⟨h, Nat.lt_add_of_pos_right (winLen_bounds maxLen ctx ws hcfg).1⟩) (Nat.not_lt.mpr hp)
  | case2 ws h wl cs ce we hp rest hr ih =>
    obtain ⟨l, hl, ht, hc⟩ := ih (Nat.min_le_left ..)
    rw [hr] at hl; cases hl
    refine ⟨_, rfl, tiles_cons (P := fun w => w.ctxEnd - w.ctxStart ≤ maxLen) (Nat.sub_le ..) (Nat.lt_of_not_le hp)
      (by omega)
      (Nat.min_le_left ..) ?_ ht hc⟩
    exact ctx_le_max (S := ws) hcfg (Nat.le_add_of_sub_le (Nat.le_refl _)) (fun h0 => by rw [h0]; exact Nat.zero_le _)
      (Nat.min_le_right ..)
  | case3 ws h wl we hp e he ih =>
    obtain ⟨l, hl, _⟩ := ih (Nat.min_le_left ..)
    rw [he] at hl; cases hl
  | case4 ws h => exact ⟨[], rfl, Nat.le_antisymm hws (Nat.le_of_not_lt h), nofun⟩

/-- **character windows tile the text, contexts contain their windows and never exceed the
maximum**, for every non-empty text and every valid configuration -/
theorem char_windows_ok (lens : List Nat) (maxLen ctx : Nat) (hne : lens ≠ []) (hcfg : 2 * ctx < maxLen) :
    ∃ l, charWindows lens maxLen ctx = .ok l ∧ Tiles lens.length 0 l ∧
      ∀ w ∈ l, CtxOK lens w ∧ w.ctxEnd - w.ctxStart ≤ maxLen := by
  rw [charWindows_valid hne hcfg]
  exact charLoop_ok lens maxLen ctx hcfg _ 0 rfl (Nat.zero_le _)

/-- an impossible configuration is an error value -/
theorem invalid_cfg_err (lens : List Nat) (maxLen ctx : Nat) (hne : lens ≠ []) (hcfg : maxLen ≤ 2 * ctx) :
    charWindows lens maxLen ctx = .error .badConfig ∧ byteWindows lens maxLen ctx = .error .badConfig := by
  simp [charWindows, byteWindows, List.isEmpty_eq_false_iff.mpr hne, hcfg]

/-- `too-wide` is only reported for a character wider than the smallest window length -/
theorem byteLoop_ok (lens : List Nat) (maxB ctx : Nat) (hcfg : 2 * ctx < maxB) (ws : Nat) (hws : ws ≤ lens.length) :
    (byteLoop lens maxB ctx ws = .error .tooWide ∧ ∃ x ∈ lens, maxB - 2 * ctx < x) ∨
      ∃ l, byteLoop lens maxB ctx ws = .ok l ∧ Tiles lens.length ws l ∧
        ∀ w ∈ l, CtxOK lens w ∧ w.bCtxEnd - w.bCtxStart ≤ maxB := by
  fun_induction byteLoop lens maxB ctx ws with
  | case1 ws h wl cnt hz =>
    have hz : countUntil (lens.drop ws) wl = 0 := hz
    rw [List.drop_eq_getElem_cons h, countUntil_cons_eq_zero] at hz
    exact .inl ⟨rfl, lens[ws], List.getElem_mem h, Nat.lt_of_le_of_lt (winLen_bounds maxB ctx ws hcfg).2 hz⟩
  | case2 ws h wl cnt we hz cs ce rest hr ih =>
    have hwe : we ≤ lens.length := countUntil_drop_le lens ws wl hws
    rcases ih hwe with ⟨he, _⟩ | ⟨l, hl, ht, hc⟩
    · rw [hr] at he; cases he
    · rw [hr] at hl; cases hl
      refine .inr ⟨_, rfl, tiles_cons (P := fun w => w.bCtxEnd - w.bCtxStart ≤ maxB) (Nat.sub_le ..)
        (Nat.lt_add_of_pos_right (Nat.pos_of_ne_zero hz)) (Nat.le_add_right ..) (countUntil_drop_le lens we ctx hwe) ?_ ht hc⟩
      exact ctx_le_max hcfg (byteOf_countUntil_rev lens ws ctx hws) (fun h0 => by rw [h0]; exact Nat.zero_le _)
        (Nat.le_trans (byteOf_countUntil lens we ctx) (Nat.add_le_add_right (byteOf_countUntil lens ws wl) _))
  | case3 ws h wl cnt we hz e he ih =>
    rcases ih (countUntil_drop_le lens ws wl hws) with ⟨he', hx⟩ | ⟨l, hl, _⟩
    · exact .inl ⟨he ▸ he', hx⟩
    · rw [he] at hl; cases hl
  | case4 ws h => exact .inr ⟨[], rfl, Nat.le_antisymm hws (Nat.le_of_not_lt h), nofun⟩

theorem byte_windows_spec (lens : List Nat) (maxB ctx : Nat) (hne : lens ≠ []) (hcfg : 2 * ctx < maxB) :
    (byteWindows lens maxB ctx = .error .tooWide ∧ ∃ x ∈ lens, maxB - 2 * ctx < x) ∨
    ∃ l, byteWindows lens maxB ctx = .ok l ∧ Tiles lens.length 0 l ∧
      ∀ w ∈ l, CtxOK lens w ∧ w.bCtxEnd - w.bCtxStart ≤ maxB := by
  rw [byteWindows_valid hne hcfg]
  exact byteLoop_ok lens maxB ctx hcfg 0 (Nat.zero_le _)

/-- **byte windows**: for every non-empty text and valid configuration the result is either the
`too-wide` error value or a tiling whose contexts contain their windows and never exceed
`max_bytes`; no other error, no fault -/
theorem byte_windows_ok (lens : List Nat) (maxB ctx : Nat) (hne : lens ≠ []) (hcfg : 2 * ctx < maxB) :
    byteWindows lens maxB ctx = .error .tooWide ∨
    ∃ l, byteWindows lens maxB ctx = .ok l ∧ Tiles lens.length 0 l ∧
      ∀ w ∈ l, CtxOK lens w ∧ w.bCtxEnd - w.bCtxStart ≤ maxB :=
  (byte_windows_spec lens maxB ctx hne hcfg).imp_left (·.1)

theorem byte_windows_fit (lens : List Nat) (maxB ctx : Nat) (hne : lens ≠ []) (hcfg : 2 * ctx < maxB)
    (hfit : ∀ l ∈ lens, l ≤ maxB - 2 * ctx) : ∃ l, byteWindows lens maxB ctx = .ok l := by
  rcases byte_windows_spec lens maxB ctx hne hcfg with ⟨_, x, hx, hlt⟩ | ⟨l, hl, _⟩
  · exact absurd (hfit x hx) (Nat.not_le.mpr hlt)
  · exact ⟨l, hl⟩

/-- byte ranges of a tiling start at `byteOf ws`, chain, and end at the total byte length -/
def ByteTiles (lens : List Nat) : Nat → List Win → Prop
  | b, [] => b = lens.sum
  | b, w :: rest => w.bWStart = b ∧ ByteTiles lens w.bWEnd rest

theorem tiles_bytes (lens : List Nat) (ws : Nat) (l : List Win) (ht : Tiles lens.length ws l)
    (hc : ∀ w ∈ l, CtxOK lens w) : ByteTiles lens (byteOf lens ws) l := by
  induction l generalizing ws with
  | nil => simp [Tiles] at ht; subst ht; simp [ByteTiles, byteOf]
  | cons w rest ih =>
    obtain ⟨h1, _, _, h4⟩ := ht
    have hw := hc w List.mem_cons_self
    refine ⟨by rw [hw.2.2.2.2.1, h1], ?_⟩
    rw [hw.2.2.2.2.2.1]
    exact ih _ h4 (fun v hv => hc v (List.mem_cons_of_mem _ hv))

/-- the full window covers the whole text -/
theorem full_window (lens : List Nat) : Tiles lens.length 0 (match lens with | [] => [] | _ => fullWindows lens) ∨ lens ≠ [] := by
  cases lens with
  | nil => left; simp [Tiles]
  | cons a l => right; simp

theorem full_window_ok (lens : List Nat) (hne : lens ≠ []) :
    Tiles lens.length 0 (fullWindows lens) ∧ ∀ w ∈ fullWindows lens, CtxOK lens w := by
  refine ⟨⟨rfl, List.length_pos_iff.mpr hne, Nat.le_refl _, rfl⟩, fun w hw => ?_⟩
  rw [List.mem_singleton.mp hw]
  exact ⟨Nat.zero_le _, Nat.le_refl _, Nat.le_refl _, rfl, rfl, rfl, rfl⟩

/-! non-vacuity: the hypotheses are satisfiable and the theorems apply to concrete texts -/
example : ∃ l, charWindows [1, 2, 3, 4, 1] 3 1 = .ok l ∧ Tiles 5 0 l ∧
    ∀ w ∈ l, CtxOK [1, 2, 3, 4, 1] w ∧ w.ctxEnd - w.ctxStart ≤ 3 :=
  char_windows_ok [1, 2, 3, 4, 1] 3 1 (by decide) (by decide)
example : ∃ l, byteWindows [1, 2, 3, 4, 1] 9 2 = .ok l :=
  byte_windows_fit [1, 2, 3, 4, 1] 9 2 (by decide) (by decide) (by decide)

theorem tilesB_iff (n ws : Nat) (l : List Win) : tilesB n ws l = true ↔ Tiles n ws l := by
  induction l generalizing ws with
  | nil => simp [tilesB, Tiles]
  | cons w rest ih =>
    simp only [tilesB, Tiles, Bool.and_eq_true, beq_iff_eq, decide_eq_true_eq, ih, and_assoc]

theorem ctxOkB_iff (lens : List Nat) (w : Win) : ctxOkB lens w = true ↔ CtxOK lens w := by
  simp only [ctxOkB, CtxOK, Bool.and_eq_true, beq_iff_eq, decide_eq_true_eq, and_assoc]

theorem windowsAccept_some_iff (kind : Nat) (lens : List Nat) (maxLen ctx : Nat) (ws : List Win) :
    windowsAccept kind lens maxLen ctx (some ws) = true ↔
      (2 ≤ kind ∨ 2 * ctx < maxLen) ∧ Tiles lens.length 0 ws ∧ (∀ w ∈ ws, CtxOK lens w) ∧
      (match kind with
       | 0 => ∀ w ∈ ws, w.ctxEnd - w.ctxStart ≤ maxLen
       | 1 => ∀ w ∈ ws, w.bCtxEnd - w.bCtxStart ≤ maxLen
       | _ => ws.length = 1) := by
  simp only [windowsAccept, Bool.and_eq_true, Bool.or_eq_true, decide_eq_true_eq, tilesB_iff, List.all_eq_true,
    ctxOkB_iff, and_assoc, ge_iff_le]
  refine and_congr_right fun _ => and_congr_right fun _ => and_congr_right fun _ => ?_
  split <;> simp only [List.all_eq_true, decide_eq_true_eq, beq_iff_eq]

theorem windowsAccept_none_iff (kind : Nat) (lens : List Nat) (maxLen ctx : Nat) :
    windowsAccept kind lens maxLen ctx none = true ↔
      kind < 2 ∧ (maxLen ≤ 2 * ctx ∨ (kind = 1 ∧ ∃ l ∈ lens, maxLen - 2 * ctx < l)) := by
  simp only [windowsAccept, Bool.and_eq_true, Bool.or_eq_true, decide_eq_true_eq, beq_iff_eq, List.any_eq_true]

/-- the function model's own answer is accepted, for every non-empty text, every kind and every configuration
(so the acceptance test never refuses the modelled code) -/
theorem windowsModel_accepted (kind : Nat) (lens : List Nat) (maxLen ctx : Nat) (hne : lens ≠ []) (hk : kind ≤ 2) :
    windowsAccept kind lens maxLen ctx
      (match windowsModel kind lens maxLen ctx with | .ok ws => some ws | .error _ => none) = true := by
  match kind, hk with
  | 0, _ =>
    by_cases hcfg : 2 * ctx < maxLen
    · obtain ⟨l, hl, ht, hc⟩ := char_windows_ok lens maxLen ctx hne hcfg
      simp only [windowsModel, hl]
      exact (windowsAccept_some_iff ..).mpr ⟨.inr hcfg, ht, fun w hw => (hc w hw).1, fun w hw => (hc w hw).2⟩
    · simp only [windowsModel, (invalid_cfg_err lens maxLen ctx hne (Nat.le_of_not_lt hcfg)).1]
      exact (windowsAccept_none_iff ..).mpr ⟨Nat.zero_lt_two, .inl (Nat.le_of_not_lt hcfg)⟩
  | 1, _ =>
    by_cases hcfg : 2 * ctx < maxLen
    · rcases byte_windows_spec lens maxLen ctx hne hcfg with ⟨he, hx⟩ | ⟨l, hl, ht, hc⟩
      · simp only [windowsModel, he]
        exact (windowsAccept_none_iff ..).mpr ⟨Nat.one_lt_two, .inr ⟨rfl, hx⟩⟩
      · simp only [windowsModel, hl]
        exact (windowsAccept_some_iff ..).mpr ⟨.inr hcfg, ht, fun w hw => (hc w hw).1, fun w hw => (hc w hw).2⟩
    · simp only [windowsModel, (invalid_cfg_err lens maxLen ctx hne (Nat.le_of_not_lt hcfg)).2]
      exact (windowsAccept_none_iff ..).mpr ⟨Nat.one_lt_two, .inl (Nat.le_of_not_lt hcfg)⟩
  | 2, _ =>
    obtain ⟨ht, hc⟩ := full_window_ok lens hne
    simp only [windowsModel, List.isEmpty_eq_false_iff.mpr hne, Bool.false_eq_true, if_false]
    exact (windowsAccept_some_iff ..).mpr ⟨.inl (Nat.le_refl _), ht, hc, rfl⟩

/-- what acceptance of a list of windows means: the property's clauses -/
theorem windowsAccept_ok_spec (kind : Nat) (lens : List Nat) (maxLen ctx : Nat) (ws : List Win)
    (h : windowsAccept kind lens maxLen ctx (some ws) = true) :
    Tiles lens.length 0 ws ∧ (∀ w ∈ ws, CtxOK lens w) ∧ ByteTiles lens 0 ws ∧
    (kind = 0 → ∀ w ∈ ws, w.ctxEnd - w.ctxStart ≤ maxLen) ∧
    (kind = 1 → ∀ w ∈ ws, w.bCtxEnd - w.bCtxStart ≤ maxLen) ∧
    (kind < 2 → 2 * ctx < maxLen) := by
  obtain ⟨hcfg, ht, hc, hb⟩ := (windowsAccept_some_iff ..).mp h
  refine ⟨ht, hc, tiles_bytes lens 0 ws ht hc, ?_, ?_, fun hk => hcfg.resolve_left (Nat.not_le.mpr hk)⟩
  · rintro rfl; exact hb
  · rintro rfl; exact hb

/-- an error is only accepted for an impossible configuration or (byte windows) a character that does not fit the
smallest window -/
theorem windowsAccept_err_spec (kind : Nat) (lens : List Nat) (maxLen ctx : Nat)
    (h : windowsAccept kind lens maxLen ctx none = true) :
    kind < 2 ∧ (maxLen ≤ 2 * ctx ∨ (kind = 1 ∧ ∃ l ∈ lens, maxLen - 2 * ctx < l)) :=
  (windowsAccept_none_iff ..).mp h

/-! concrete observations for `lens = [1,2,1,1]`, byte windows, max 4, context 1 (byte offsets 0,1,3,4,5) -/
section Examples
/-- the model's answer: windows [0,2) (context [0,3)) and [2,4) -/
private def exModel : List Win :=
  [⟨0, 0, 2, 3, 0, 0, 3, 4⟩, ⟨2, 2, 4, 4, 3, 3, 5, 5⟩]
/-- a different valid tiling with shorter windows: [0,1) [1,2) [2,3) [3,4) -/
private def exShort : List Win :=
  [⟨0, 0, 1, 1, 0, 0, 1, 1⟩, ⟨1, 1, 2, 2, 1, 1, 3, 3⟩, ⟨1, 2, 3, 4, 1, 3, 4, 5⟩, ⟨2, 3, 4, 4, 3, 4, 5, 5⟩]

private theorem exModel_eq : windowsModel 1 [1, 2, 1, 1] 4 1 = .ok exModel := by
  with_unfolding_all rfl
example : windowsAccept 1 [1, 2, 1, 1] 4 1 (some exModel) = true := by decide +kernel
/-- the same, as an instance of the general theorem -/
example : windowsAccept 1 [1, 2, 1, 1] 4 1 (some exModel) = true := by
  have h := windowsModel_accepted 1 [1, 2, 1, 1] 4 1 (by decide) (by decide)
  rw [exModel_eq] at h; exact h
example : windowsAccept 1 [1, 2, 1, 1] 4 1 (some exShort) = true := by decide +kernel
/-- a gap: character 2 is in no window -/
example : windowsAccept 1 [1, 2, 1, 1] 4 1
    (some [⟨0, 0, 2, 2, 0, 0, 3, 3⟩, ⟨3, 3, 4, 4, 4, 4, 5, 5⟩]) = false := by decide +kernel
/-- an empty window -/
example : windowsAccept 1 [1, 2, 1, 1] 4 1
    (some [⟨0, 0, 2, 2, 0, 0, 3, 3⟩, ⟨2, 2, 2, 2, 3, 3, 3, 3⟩, ⟨2, 2, 4, 4, 3, 3, 5, 5⟩]) = false := by decide +kernel
/-- a context of 5 bytes exceeds the maximum of 4 -/
example : windowsAccept 1 [1, 2, 1, 1] 4 1
    (some [⟨0, 0, 2, 2, 0, 0, 3, 3⟩, ⟨0, 2, 4, 4, 0, 3, 5, 5⟩]) = false := by decide +kernel
/-- a wrong byte boundary: character 2 starts at byte 3, not 2 -/
example : windowsAccept 1 [1, 2, 1, 1] 4 1
    (some [⟨0, 0, 2, 2, 0, 0, 2, 2⟩, ⟨2, 2, 4, 4, 2, 2, 5, 5⟩]) = false := by decide +kernel
/-- every character fits into `4 - 2·1 = 2` bytes: an error is refused -/
example : windowsAccept 1 [1, 2, 1, 1] 4 1 none = false := by decide +kernel
/-- impossible configuration `2 ≤ 2·1`: an error is accepted (and windows are refused) -/
example : windowsAccept 1 [1, 2, 1, 1] 2 1 none = true := by decide +kernel
example : windowsAccept 1 [1, 2, 1, 1] 2 1 (some exShort) = false := by decide +kernel
end Examples

/-! ### no `usize` operation of `char` / `byte` overflows: the checked-arithmetic mirror refines the `Nat` model

`Model/WindowsU.lean` re-writes the configuration check, `char`, `count_until` and `byte` with checked `usize`
operations (`none` = the operation panics in a debug build).  "An impossible configuration or a character that
cannot fit yields an error, never a panic" includes that no arithmetic operation panics; the theorems below prove
it for every input that can exist: `max`, `ctx` are `usize` values, a text has at most `isize::MAX = 2^63 - 1`
bytes, hence also at most that many characters. -/

/-- the REPAIRED configuration check `max / 2 < ctx || max <= 2 * ctx` never overflows and decides exactly the
model's predicate; `ctx` may be anything (the short-circuit protects the product) -/
theorem cfgInvalidU_eq' (max ctx : Nat) (hm : max < 2 ^ 64) :
    cfgInvalidU max ctx = some (decide (max ≤ 2 * ctx)) := by
  unfold cfgInvalidU
  by_cases h : max / 2 < ctx
  · rw [if_pos h, decide_eq_true (by omega)]
  · rw [if_neg h, mulU_eq (by unfold U64; omega)]
    rfl

theorem cfgInvalidU_eq (max ctx : Nat) (hm : max < 2 ^ 64) (_hc : ctx < 2 ^ 64) :
    cfgInvalidU max ctx = some (decide (max ≤ 2 * ctx)) :=
  cfgInvalidU_eq' max ctx hm

/-- the check BEFORE the repair (`max <= 2 * ctx`) panics for every context length from `2^63` on: the repaired
defect -/
theorem cfgInvalidOldU_overflows : ∀ max ctx : Nat, 2 ^ 63 ≤ ctx → cfgInvalidOldU max ctx = none := by
  intro max ctx h
  unfold cfgInvalidOldU
  rw [mulU_none (by unfold U64; omega)]
  rfl

/-- below `2^63` the old check was fine, so `2^63 ≤ ctx` characterises the defect exactly -/
theorem cfgInvalidOldU_ok (max ctx : Nat) (h : ctx < 2 ^ 63) :
    cfgInvalidOldU max ctx = some (decide (max ≤ 2 * ctx)) := by
  unfold cfgInvalidOldU
  rw [mulU_eq (by unfold U64; omega)]
  rfl

example : cfgInvalidOldU 5 (2 ^ 63) = none := by decide +kernel
example : cfgInvalidOldU (2 ^ 64 - 1) (2 ^ 64 - 1) = none := by decide +kernel
example : cfgInvalidU 5 (2 ^ 63) = some true := by decide +kernel
example : cfgInvalidU (2 ^ 64 - 1) (2 ^ 64 - 1) = some true := by decide +kernel
example : cfgInvalidU (2 ^ 64 - 1) (2 ^ 63 - 1) = some false := by decide +kernel
example : cfgInvalidU (2 ^ 64 - 1) 0 = some false := by decide +kernel

/-- `char`: for a text of at most `2^63` characters no operation overflows and the result is the model's.
(`ctx` needs no bound of its own: an accepted configuration has `2·ctx < max`.) -/
theorem charWindowsU_eq' (lens : List Nat) (max ctx : Nat) (hm : max < 2 ^ 64) (hn : lens.length ≤ 2 ^ 63) :
    charWindowsU lens max ctx = some (charWindows lens max ctx) := by
  unfold charWindowsU charWindows
  cases lens.isEmpty
  · simp only [Bool.false_eq_true, if_false]
    rw [cfgInvalidU_eq' max ctx hm]
    by_cases h : max ≤ 2 * ctx
    · simp [h]
    · simp only [h, decide_false, if_false]
      exact charLoopU_eq lens max ctx (by omega) hm (by unfold U64; omega) 0 (fun _ => Or.inl rfl)
  · simp

/-- **`char` never panics on arithmetic**: for every text that can exist (fewer than `2^63` characters) and all
`usize` parameters the checked mirror yields a value, the `Nat` model's -/
theorem charWindowsU_eq (lens : List Nat) (max ctx : Nat) (hm : max < 2 ^ 64) (_hc : ctx < 2 ^ 64)
    (hn : lens.length < 2 ^ 63) : charWindowsU lens max ctx = some (charWindows lens max ctx) :=
  charWindowsU_eq' lens max ctx hm (by omega)

/-- `count_until`: the accumulating fold of the code equals the budget-subtracting `countUntil` of the model when
the bytes and the number of the characters it iterates over fit into `usize` -/
theorem countUntilU_eq_model (ls : List Nat) (m : Nat) (hs : ls.sum < 2 ^ 64) (hc : ls.length < 2 ^ 64) :
    countUntilU ls m = some (countUntil ls m) :=
  countUntilU_eq ls m hs hc

/-- `byte`: if the byte length and the number of characters of the text fit into `usize`, no operation
overflows and the result is the model's (characters of zero bytes allowed, `ctx` unconstrained) -/
theorem byteWindowsU_eq' (lens : List Nat) (max ctx : Nat) (hm : max < 2 ^ 64) (hs : lens.sum < 2 ^ 64)
    (hn : lens.length < 2 ^ 64) : byteWindowsU lens max ctx = some (byteWindows lens max ctx) := by
  unfold byteWindowsU byteWindows
  cases lens.isEmpty
  · simp only [Bool.false_eq_true, if_false]
    rw [cfgInvalidU_eq' max ctx hm]
    by_cases h : max ≤ 2 * ctx
    · simp [h]
    · simp only [h, decide_false, if_false]
      exact byteLoopU_eq lens max ctx (by omega) hm hs hn 0
  · simp

/-- **`byte` never panics on arithmetic**: for every text that can exist (fewer than `2^63` bytes, every character
at least one byte) and all `usize` parameters the checked mirror yields a value, the `Nat` model's -/
theorem byteWindowsU_eq (lens : List Nat) (max ctx : Nat) (hm : max < 2 ^ 64) (_hc : ctx < 2 ^ 64)
    (hb : lens.sum < 2 ^ 63) (hl : ∀ l ∈ lens, 1 ≤ l) :
    byteWindowsU lens max ctx = some (byteWindows lens max ctx) := by
  have := length_le_sum lens hl
  exact byteWindowsU_eq' lens max ctx hm (by omega) (by omega)

/-- consequently: an impossible configuration is the error VALUE for all `usize` parameters, in both functions -/
theorem invalid_cfg_errU (lens : List Nat) (max ctx : Nat) (hne : lens ≠ []) (hm : max < 2 ^ 64)
    (hcfg : max ≤ 2 * ctx) :
    charWindowsU lens max ctx = some (.error .badConfig) ∧ byteWindowsU lens max ctx = some (.error .badConfig) := by
  simp [charWindowsU, byteWindowsU, List.isEmpty_eq_false_iff.mpr hne, cfgInvalidU_eq' max ctx hm, hcfg]

/-- the bound on the number of characters is sharp for `char`: with `2^63 + 1` characters (a text that cannot
exist), `max = 2^63`, `ctx = 0` the second window computes `window_start + window_length = 2^63 + 2^63` -/
theorem charWindowsU_length_sharp (lens : List Nat) (h : lens.length = 2 ^ 63 + 1) :
    charWindowsU lens (2 ^ 63) 0 = none := by
  have h1 : lens.isEmpty = false := List.isEmpty_eq_false_iff.mpr fun h0 => by rw [h0] at h; cases h
  have c : cfgInvalidU (2 ^ 63) 0 = some false := by decide
  have w0 : winLenU (2 ^ 63) 0 0 = some (2 ^ 63) := by decide
  have w1 : winLenU (2 ^ 63) 0 (2 ^ 63) = some (2 ^ 63) := by decide
  have a0 : addU 0 (2 ^ 63) = some (2 ^ 63) := by decide
  have a1 : addU (2 ^ 63) 0 = some (2 ^ 63) := by decide
  have a2 : addU (2 ^ 63) (2 ^ 63) = none := by decide
  have m : min lens.length (2 ^ 63) = 2 ^ 63 := by omega
  unfold charWindowsU
  rw [h1]; simp only [Bool.false_eq_true, if_false, c]
  rw [charLoopU, dif_pos (by omega)]
  simp only [w0, a0, a1, m]
  rw [dif_neg (by omega)]
  rw [charLoopU, dif_pos (by omega)]
  simp only [w1, a2]

example : ∃ lens : List Nat, lens.length = 2 ^ 63 + 1 := ⟨List.replicate (2 ^ 63 + 1) 1, List.length_replicate⟩

/-! non-vacuity and boundary values.  (`Except` has no `DecidableEq`, so `decide` does not apply; the loops are
defined by well-founded recursion, which `rfl` evaluates only when told to unfold everything.) -/
section ExamplesU

/-- `max = usize::MAX`, no context: one window, no overflow -/
example : charWindowsU [1, 2, 3, 4, 1] (2 ^ 64 - 1) 0 = some (.ok [mkWin [1, 2, 3, 4, 1] 0 0 5 5]) := by
  with_unfolding_all rfl
/-- the same as an instance of the general theorem -/
example : charWindowsU [1, 2, 3, 4, 1] (2 ^ 64 - 1) 0 = some (charWindows [1, 2, 3, 4, 1] (2 ^ 64 - 1) 0) :=
  charWindowsU_eq _ _ _ (by decide) (by decide) (by decide)
/-- two windows: `[0,2)` with context `[0,3)`, then `[2,3)` with context `[1,3)` -/
example : charWindowsU [1, 2, 3] 3 1 = some (.ok [mkWin [1, 2, 3] 0 0 2 3, mkWin [1, 2, 3] 1 2 3 3]) := by
  with_unfolding_all rfl
example : byteWindowsU [2] 7 2 = some (.ok [mkWin [2] 0 0 1 1]) := by
  with_unfolding_all rfl
example : byteWindowsU [2] 7 2 = some (byteWindows [2] 7 2) :=
  byteWindowsU_eq _ _ _ (by decide) (by decide) (by decide) (by decide)
/-- `max = usize::MAX`, the largest context that is still valid -/
example : byteWindowsU [1, 2, 3, 4, 1] (2 ^ 64 - 1) (2 ^ 63 - 1) =
    some (byteWindows [1, 2, 3, 4, 1] (2 ^ 64 - 1) (2 ^ 63 - 1)) :=
  byteWindowsU_eq _ _ _ (by decide) (by decide) (by decide) (by decide)
/-- an invalid configuration is an error value, also where the old check overflowed -/
example : charWindowsU [1, 1] 4 2 = some (.error .badConfig) := by
  with_unfolding_all rfl
example : byteWindowsU [1, 1] (2 ^ 64 - 1) (2 ^ 63) = some (.error .badConfig) := by
  with_unfolding_all rfl
/-- a character too wide for the window is an error value -/
example : byteWindowsU [1, 5, 1] 6 1 = some (.error .tooWide) := by
  with_unfolding_all rfl
/-- the empty text: the single empty window, whatever the configuration (as in `windows::windows`) -/
example : charWindowsU [] 0 (2 ^ 64 - 1) = some (.ok [emptyWin]) := rfl
/-- `count_until` on a concrete list -/
example : countUntilU [1, 2, 3] 4 = some 2 := by decide +kernel

/-- the bound on the byte length is needed, and `2^64` is sharp for `byte`: a (non-existent) text of `2^64` bytes
makes `acc + char_byte_len(idx)` in `count_until` overflow, where the `Nat` model has an answer.  No text of
that size can exist (allocations are limited to `isize::MAX` bytes), so this is not a defect of the code. -/
example : byteWindowsU [2 ^ 64 - 1, 1] (2 ^ 64 - 1) 0 = none := by
  with_unfolding_all rfl
example : ∃ l, byteWindows [2 ^ 64 - 1, 1] (2 ^ 64 - 1) 0 = .ok l :=
  byte_windows_fit _ _ _ (by decide) (by decide) (by decide)

end ExamplesU

end Tu.C16

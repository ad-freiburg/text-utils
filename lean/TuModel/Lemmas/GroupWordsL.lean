/-
  `_group_words` apart from the edit script.  The grouping loop: for a strictly increasing merge set it ends with
  `input_idx = #words` and `pred_idx = #insertions + #words - #merges` (by counting merges and insertions below the
  current word: what the closing assertion needs), and when every predicted word is matched it reports every input
  word (what the calibration needs).  The whitespace a script deletes / inserts (`delWs`, `insWs`), the word index
  of a position in a whitespace-clean text, and `groupWordsWith` in terms of the loop.
-/
import TuModel.Model.Metrics
import TuModel.Lemmas.ListL
import TuModel.Lemmas.TextL
namespace Tu

def countBelow (l : List Nat) (k : Nat) : Nat := l.countP (fun x => decide (x < k))

theorem countBelow_succ (l : List Nat) (k : Nat) : countBelow l (k + 1) = countBelow l k + l.count k := by
  unfold countBelow
  induction l with
  | nil => rfl
  | cons x xs ih =>
    rw [List.countP_cons, List.countP_cons, List.count_cons, ih]
    rcases Nat.lt_trichotomy x k with h | h | h
    · simp [h, Nat.lt_succ_of_lt h, Nat.ne_of_lt h]; omega
    · simp [h]; omega
    · simp [Nat.not_lt_of_gt h, Nat.ne_of_gt h, show ¬ x < k + 1 by omega]

theorem countBelow_of_lt {l : List Nat} {n : Nat} (h : ∀ x ∈ l, x < n) : countBelow l n = l.length :=
  List.countP_eq_length.mpr fun x hx => decide_eq_true (h x hx)

theorem countBelow_zero (l : List Nat) : countBelow l 0 = 0 :=
  List.countP_eq_zero.mpr fun x _ => by simp

/-- the inner loop of a group that started with `pred_idx = p`: it stops at the first word `i'` that is not merged
with its successor, and `p + tot' + 1` is then the `pred_idx` that the invariant of `groupLoop_sorted` asks for -/
theorem ext_spec (merged I : List Nat) (inserted : Nat → Nat) (hins : ∀ w, inserted w = I.count w) (n : Nat)
    (hs : merged.Pairwise (· < ·)) (hm : ∀ m ∈ merged, m + 1 < n) (p f i : Nat) (mw : List Nat) (tot i' : Nat)
    (mw' : List Nat) (tot' : Nat) (he : groupLoop.ext merged inserted f i mw tot = (i', mw', tot')) (hi : i < n)
    (hf : merged.length < f + countBelow merged i) (h : p + tot + countBelow merged i = countBelow I (i + 1) + i) :
    i ≤ i' ∧ i' < n ∧ p + tot' + 1 + countBelow merged (i' + 1) = countBelow I (i' + 1) + (i' + 1) := by
  have hM (k : Nat) : countBelow merged (k + 1) = countBelow merged k + if k ∈ merged then 1 else 0 := by
    rw [countBelow_succ, List.Nodup.count (hs.imp Nat.ne_of_lt)]
  fun_induction groupLoop.ext merged inserted f i mw tot with
  | case1 i mw tot =>
    have : countBelow merged i ≤ merged.length := List.countP_le_length
    omega
  | case2 f i mw tot hc ih =>
    have hc := List.contains_iff_mem.mp hc
    have hM := hM i
    rw [if_pos hc] at hM
    obtain ⟨h1, h2⟩ := ih he (hm i hc) (by omega) (by rw [countBelow_succ I (i + 1), hins]; omega)
    exact ⟨Nat.le_of_succ_le h1, h2⟩
  | case3 f i mw tot hc =>
    have hM := hM i
    rw [if_neg (mt List.contains_iff_mem.mpr hc)] at hM
    cases he
    exact ⟨Nat.le_refl _, hi, by omega⟩

theorem groupLoop_sorted (n : Nat) (merged I matching : List Nat) (hs : merged.Pairwise (· < ·))
    (hm : ∀ m ∈ merged, m + 1 < n) (hI : ∀ w ∈ I, w < n) :
    ∃ c, groupLoop n merged (fun w => (I.filter (· == w)).length) matching (n + 1) 0 0 [] =
      some (n, I.length + n - merged.length, c) := by
  have hins (w : Nat) : (I.filter (· == w)).length = I.count w := List.countP_eq_length_filter.symm
  -- invariant: `pred_idx + #merged below input_idx = #insertions below input_idx + input_idx`
  have key (fuel inIdx predIdx : Nat) (correct : List Nat) (hle : inIdx ≤ n) (hf : n - inIdx < fuel)
      (hinv : predIdx + countBelow merged inIdx = countBelow I inIdx + inIdx) :
      ∃ c P, groupLoop n merged (fun w => (I.filter (· == w)).length) matching fuel inIdx predIdx correct =
        some (n, P, c) ∧ P + countBelow merged n = countBelow I n + n := by
    fun_induction groupLoop n merged (fun w => (I.filter (· == w)).length) matching fuel inIdx predIdx correct with
    | case1 => omega
    | case2 fuel inIdx predIdx correct hlt i' mw tot he ok ih =>
      obtain ⟨hle', hi', heq⟩ := ext_spec merged I _ hins n hs hm predIdx _ _ _ _ _ _ _ he hlt (by omega)
        (by rw [countBelow_succ, hins]; omega)
      exact ih hi' (by omega) heq
    | case3 fuel inIdx predIdx correct hlt =>
      cases Nat.le_antisymm hle (Nat.le_of_not_lt hlt)
      exact ⟨correct, predIdx, rfl, hinv⟩
  obtain ⟨c, P, hc, hP⟩ := key (n + 1) 0 0 [] (Nat.zero_le _) (Nat.lt_succ_self _) (by rw [countBelow_zero, countBelow_zero])
  rw [countBelow_of_lt (fun m h => Nat.lt_of_succ_lt (hm m h)), countBelow_of_lt hI] at hP
  exact ⟨c, by rw [hc, show P = I.length + n - merged.length by omega]⟩

theorem ext_mono (merged : List Nat) (inserted : Nat → Nat) (f i : Nat) (mw : List Nat) (tot i' : Nat)
    (mw' : List Nat) (tot' : Nat) (h : groupLoop.ext merged inserted f i mw tot = (i', mw', tot')) :
    i ≤ i' ∧ (∀ x ∈ mw, x ∈ mw') ∧ (∀ x, i < x → x ≤ i' → x ∈ mw') := by
  fun_induction groupLoop.ext merged inserted f i mw tot with
  | case2 f i mw tot _ ih =>
    obtain ⟨h1, h3, h4⟩ := ih h
    refine ⟨Nat.le_of_succ_le h1, fun x hx => h3 x (List.mem_cons_of_mem _ hx), fun x hx1 hx2 => ?_⟩
    by_cases hx : x = i + 1
    · exact h3 _ (hx ▸ List.mem_cons_self)
    · exact h4 x (by omega) hx2
  | case1 | case3 =>
    cases h
    exact ⟨Nat.le_refl _, fun x hx => hx, fun x h1 h2 => by omega⟩

/-- `pred_idx` only grows, so when every predicted word below its final value is matched each group is `ok`; the
result then holds the words collected so far and every input-word index from `inIdx` up to the final `input_idx` -/
theorem groupLoop_full (n : Nat) (merged : List Nat) (inserted : Nat → Nat) (matching : List Nat)
    (fuel inIdx predIdx : Nat) (correct : List Nat) (a P : Nat) (c : List Nat)
    (h : groupLoop n merged inserted matching fuel inIdx predIdx correct = some (a, P, c))
    (hM : ∀ k, k < P → matching.contains k = true) :
    predIdx ≤ P ∧ inIdx ≤ a ∧ (∀ x ∈ correct, x ∈ c) ∧ (∀ x, inIdx ≤ x → x < a → x ∈ c) := by
  fun_induction groupLoop n merged inserted matching fuel inIdx predIdx correct with
  | case1 => cases h
  | case2 fuel inIdx predIdx correct _ i' mw tot he ok ih =>
    obtain ⟨g1, g2, g3, g4⟩ := ih h
    obtain ⟨e1, e3, e4⟩ := ext_mono _ _ _ _ _ _ _ _ _ he
    have hok : ok = true := List.all_eq_true.mpr fun k hk => hM _ (by have := List.mem_range.mp hk; omega)
    rw [hok, if_pos rfl] at g3
    refine ⟨by omega, by omega, fun x hx => g3 x (List.mem_append_right _ hx), fun x hx1 hx2 => ?_⟩
    by_cases hx : x ≤ i'
    · apply g3 x (List.mem_append_left _ _)
      by_cases hxi : x = inIdx
      · exact e3 x (List.mem_singleton.mpr hxi)
      · exact e4 x (by omega) hx
    · exact g4 x (by omega) hx2
  | case3 =>
    cases h
    exact ⟨Nat.le_refl _, Nat.le_refl _, fun x hx => hx, fun x h1 h2 => by omega⟩

/-- input positions of the deleted whitespace clusters -/
def delWs (a : List (List Nat)) (l : List (EKind × Nat × Nat)) : List Nat :=
  l.filterMap (fun (k, i, _) => if k == .delete && isWsCl (a.getD i []) then some i else none)

/-- input positions at which a whitespace cluster is inserted -/
def insWs (b : List (List Nat)) (l : List (EKind × Nat × Nat)) : List Nat :=
  l.filterMap (fun (k, i, j) => if k == .insert && isWsCl (b.getD j []) then some i else none)

theorem delWs_insert (a : List (List Nat)) (i j : Nat) (l : List (EKind × Nat × Nat)) :
    delWs a ((.insert, i, j) :: l) = delWs a l := rfl
theorem delWs_replace (a : List (List Nat)) (i j : Nat) (l : List (EKind × Nat × Nat)) :
    delWs a ((.replace, i, j) :: l) = delWs a l := rfl
theorem delWs_delete (a : List (List Nat)) (i j : Nat) (l : List (EKind × Nat × Nat)) :
    delWs a ((.delete, i, j) :: l) = if isWsCl (a.getD i []) then i :: delWs a l else delWs a l := by
  unfold delWs
  simp only [List.filterMap_cons]
  cases isWsCl (a.getD i []) <;> rfl

theorem insWs_delete (b : List (List Nat)) (i j : Nat) (l : List (EKind × Nat × Nat)) :
    insWs b ((.delete, i, j) :: l) = insWs b l := rfl
theorem insWs_replace (b : List (List Nat)) (i j : Nat) (l : List (EKind × Nat × Nat)) :
    insWs b ((.replace, i, j) :: l) = insWs b l := rfl
theorem insWs_insert (b : List (List Nat)) (i j : Nat) (l : List (EKind × Nat × Nat)) :
    insWs b ((.insert, i, j) :: l) = if isWsCl (b.getD j []) then i :: insWs b l else insWs b l := by
  unfold insWs
  simp only [List.filterMap_cons]
  cases isWsCl (b.getD j []) <;> rfl

theorem mem_delWs {a : List (List Nat)} {l : List (EKind × Nat × Nat)} {p : Nat} (h : p ∈ delWs a l) :
    ∃ j, (EKind.delete, p, j) ∈ l ∧ isWsCl (a.getD p []) = true := by
  obtain ⟨⟨k, i, j⟩, hm, hf⟩ := List.mem_filterMap.mp h
  simp only [Option.ite_none_right_eq_some, Option.some.injEq, Bool.and_eq_true, beq_iff_eq] at hf
  obtain ⟨⟨rfl, hw⟩, rfl⟩ := hf
  exact ⟨j, hm, hw⟩

theorem mem_insWs {b : List (List Nat)} {l : List (EKind × Nat × Nat)} {p : Nat} (h : p ∈ insWs b l) :
    ∃ j, (EKind.insert, p, j) ∈ l := by
  obtain ⟨⟨k, i, j⟩, hm, hf⟩ := List.mem_filterMap.mp h
  simp only [Option.ite_none_right_eq_some, Option.some.injEq, Bool.and_eq_true, beq_iff_eq] at hf
  obtain ⟨⟨rfl, _⟩, rfl⟩ := hf
  exact ⟨j, hm⟩

/-- positions (offset `idx`) of the whitespace clusters -/
def wsPosFrom : List (List Nat) → Nat → List Nat
  | [], _ => []
  | c :: cs, idx => if isWsCl c then idx :: wsPosFrom cs (idx+1) else wsPosFrom cs (idx+1)

theorem wsPosFrom_length (cs : List (List Nat)) (idx : Nat) : (wsPosFrom cs idx).length = cs.countP isWsCl := by
  fun_induction wsPosFrom cs idx with
  | case1 => rfl
  | case2 c cs idx hc ih => rw [List.length_cons, ih, List.countP_cons_of_pos hc]
  | case3 c cs idx hc ih => rw [ih, List.countP_cons_of_neg hc]

theorem wsPosFrom_mem_ge (cs : List (List Nat)) (idx : Nat) : ∀ e ∈ wsPosFrom cs idx, idx ≤ e := by
  fun_induction wsPosFrom cs idx with
  | case1 => exact fun _ h => nomatch h
  | case2 c cs idx hc ih => exact List.forall_mem_cons.mpr ⟨Nat.le_refl _, fun e he => Nat.le_of_succ_le (ih e he)⟩
  | case3 c cs idx hc ih => exact fun e he => Nat.le_of_succ_le (ih e he)

theorem wbAux_ends {r : List (List Nat)} (h : CleanCh r) : ∀ idx st, st < idx →
    (wbAux r idx (some st)).map Prod.snd = wsPosFrom r idx ++ [idx + r.length] := by
  induction h with
  | nil => intro idx st hs; simp [wbAux, hs, wsPosFrom]
  | @ch c r hw _ ih =>
    intro idx st hs
    rw [wbAux_nonws_some r idx st hw, ih (idx + 1) st (Nat.lt_succ_of_lt hs), wsPosFrom, if_neg (by simp [hw]),
      List.length_cons, Nat.add_right_comm, Nat.add_assoc]
  | @sep c r hw _ ih =>
    intro idx st hs
    rw [wbAux_ws_some _ idx st isWsCl_sp, wbAux_nonws_none r (idx + 1) hw, List.map_cons,
      ih (idx + 2) (idx + 1) (Nat.lt_succ_self _), wsPosFrom, if_pos isWsCl_sp, wsPosFrom, if_neg (by simp [hw]),
      List.length_cons, List.length_cons, List.cons_append, show idx + 2 + r.length = idx + (r.length + 1 + 1) by omega]

theorem wordBoundaries_ends {s : List (List Nat)} (hc : CleanB s = true) (hne : s ≠ []) :
    (wordBoundaries s).map Prod.snd = wsPosFrom s 0 ++ [s.length] := by
  obtain ⟨c, r, rfl⟩ := List.exists_cons_of_ne_nil hne
  obtain ⟨hw, hr⟩ := CleanB_cons.mp hc
  rw [wordBoundaries, wbAux_nonws_none r 0 hw, wbAux_ends hr 1 0 Nat.zero_lt_one, wsPosFrom, if_neg (by simp [hw]),
    List.length_cons, Nat.add_comm]

theorem wordBoundaries_length {s : List (List Nat)} (hc : CleanB s = true) (hne : s ≠ []) :
    (wordBoundaries s).length = s.countP isWsCl + 1 := by
  have := congrArg List.length (wordBoundaries_ends hc hne)
  simpa [wsPosFrom_length] using this

theorem wordBoundaries_nil : wordBoundaries [] = [] := rfl

theorem wordIdxOf_eq (words : List (Nat × Nat)) (p : Nat) :
    wordIdxOf words p = (words.map Prod.snd).findIdx (fun e => decide (p ≤ e)) := by
  unfold wordIdxOf
  rw [List.findIdx_eq_getD_findIdx?, List.findIdx?_map, List.length_map]
  rfl

theorem findIdx_wsPos (cs : List (List Nat)) (rest : List Nat) (idx k : Nat) (hk : k < cs.length)
    (hw : isWsCl (cs.getD k []) = true) :
    (wsPosFrom cs idx ++ rest).findIdx (fun e => decide (idx + k ≤ e)) = (cs.take k).countP isWsCl := by
  fun_induction wsPosFrom cs idx generalizing k with
  | case1 => cases hk
  | case2 c cs idx hc ih =>
    cases k with
    | zero => rw [List.cons_append, List.findIdx_cons, decide_eq_true (show idx + 0 ≤ idx from Nat.le_refl idx)]; rfl
    | succ k =>
      rw [List.cons_append, List.findIdx_cons, decide_eq_false (by omega), cond_false,
        show idx + (k + 1) = idx + 1 + k from Nat.add_right_comm idx k 1, ih k (Nat.lt_of_succ_lt_succ hk) hw,
        List.take_succ_cons, List.countP_cons_of_pos hc]
  | case3 c cs idx hc ih =>
    cases k with
    | zero => exact absurd hw hc
    | succ k =>
      rw [show idx + (k + 1) = idx + 1 + k from Nat.add_right_comm idx k 1, ih k (Nat.lt_of_succ_lt_succ hk) hw,
        List.take_succ_cons, List.countP_cons_of_neg hc]

theorem wordIdxOf_ws {a : List (List Nat)} (hc : CleanB a = true) (p : Nat) (hp : p < a.length)
    (hw : isWsCl (a.getD p []) = true) :
    wordIdxOf (wordBoundaries a) p = (a.take p).countP isWsCl := by
  have hne : a ≠ [] := by rintro rfl; simp at hp
  rw [wordIdxOf_eq, wordBoundaries_ends hc hne]
  have := findIdx_wsPos a [a.length] 0 p hp hw
  simpa using this

theorem wordIdxOf_lt {a : List (List Nat)} (hc : CleanB a = true) (hne : a ≠ []) (p : Nat) (hp : p ≤ a.length) :
    wordIdxOf (wordBoundaries a) p < (wordBoundaries a).length := by
  rw [wordIdxOf_eq]
  have := List.findIdx_lt_length_of_exists (p := fun e => decide (p ≤ e))
    (xs := (wordBoundaries a).map Prod.snd) ⟨a.length, by rw [wordBoundaries_ends hc hne]; simp, by simpa using hp⟩
  simpa using this

theorem countP_take_lt {α : Type} (p : α → Bool) (l : List α) (i j : Nat) (d : α) (hi : i < l.length)
    (hp : p (l.getD i d) = true) (hij : i < j) : (l.take i).countP p < (l.take j).countP p := by
  have h1 : (l.take (i + 1)).countP p = (l.take i).countP p + 1 := by
    rw [List.take_add_one, List.getElem?_eq_getElem hi, ← getD_eq_getElem l i d hi, Option.toList_some,
      List.countP_append, List.countP_singleton, if_pos hp]
  have h2 := (List.take_sublist_take_left (l := l) (show i + 1 ≤ j from hij)).countP_le (p := p)
  omega

theorem wordIdxOf_ws_sorted {a : List (List Nat)} (hc : CleanB a = true) (hne : a ≠ []) (D : List Nat)
    (hD : ∀ p ∈ D, p < a.length ∧ isWsCl (a.getD p []) = true) (hs : D.Pairwise (· < ·)) :
    (D.map (wordIdxOf (wordBoundaries a))).Pairwise (· < ·) ∧
      ∀ m ∈ D.map (wordIdxOf (wordBoundaries a)), m + 1 < (wordBoundaries a).length := by
  have he : D.map (wordIdxOf (wordBoundaries a)) = D.map (fun p => (a.take p).countP isWsCl) :=
    List.map_congr_left fun p hp => wordIdxOf_ws hc p (hD p hp).1 (hD p hp).2
  rw [he, wordBoundaries_length hc hne]
  constructor
  · rw [List.pairwise_map]
    exact hs.imp_of_mem fun {p q} hp _ hpq => countP_take_lt isWsCl a p q [] (hD p hp).1 (hD p hp).2 hpq
  · intro m hm
    obtain ⟨p, hp, rfl⟩ := List.mem_map.mp hm
    have := countP_take_lt isWsCl a p a.length [] (hD p hp).1 (hD p hp).2 (hD p hp).1
    rw [List.take_length] at this
    exact Nat.succ_lt_succ this

theorem merged_eq (input : List (List Nat)) (words : List (Nat × Nat)) (ops : List (EKind × Nat × Nat)) :
    ops.filterMap (fun (k, i, _) =>
      if k == .delete && isWsCl (input.getD i []) then some (wordIdxOf words i) else none) =
    (delWs input ops).map (wordIdxOf words) := by
  rw [delWs, List.map_filterMap]
  congr 1
  funext ⟨k, i, j⟩
  simp only []
  split <;> rfl

theorem insertedAt_eq (pred : List (List Nat)) (words : List (Nat × Nat)) (ops : List (EKind × Nat × Nat)) :
    ops.filterMap (fun (k, i, j) =>
      if k == .insert && isWsCl (pred.getD j []) then some (wordIdxOf words i) else none) =
    (insWs pred ops).map (wordIdxOf words) := by
  rw [insWs, List.map_filterMap]
  congr 1
  funext ⟨k, i, j⟩
  simp only []
  split <;> rfl

theorem groupWordsWith_eq_some {ops : List (EKind × Nat × Nat)} {input pred : List (List Nat)} {matching c : List Nat} :
    groupWordsWith ops input pred matching = some c ↔
      (wordBoundaries pred = [] ∧ c = List.range (wordBoundaries input).length) ∨
      (wordBoundaries pred ≠ [] ∧ wordBoundaries input = [] ∧ c = []) ∨
      (wordBoundaries pred ≠ [] ∧ wordBoundaries input ≠ [] ∧
        groupLoop (wordBoundaries input).length ((delWs input ops).map (wordIdxOf (wordBoundaries input)))
          (fun w => (((insWs pred ops).map (wordIdxOf (wordBoundaries input))).filter (· == w)).length) matching
          ((wordBoundaries input).length + 1) 0 0 [] =
        some ((wordBoundaries input).length, (wordBoundaries pred).length, c)) := by
  unfold groupWordsWith
  simp only []
  rw [merged_eq, insertedAt_eq]
  simp only [List.isEmpty_iff]
  by_cases hp : wordBoundaries pred = []
  · simp only [hp, if_true, Option.some.injEq, ne_eq, not_true_eq_false, false_and, or_false, true_and]
    exact eq_comm
  · by_cases hi : wordBoundaries input = []
    · simp only [hp, hi, if_false, if_true, Option.some.injEq, ne_eq, not_true_eq_false, not_false_eq_true,
        false_and, or_false, true_and, false_or]
      exact eq_comm
    · simp only [hp, hi, if_false, ne_eq, not_false_eq_true, true_and, false_and, false_or]
      split
      · rename_i a P r hg
        simp only [hg, Option.some.injEq, Prod.mk.injEq]
        by_cases hc : (a == (wordBoundaries input).length && P == (wordBoundaries pred).length) = true
        · rw [if_pos hc]
          simp only [Bool.and_eq_true, beq_iff_eq] at hc
          simp only [hc.1, hc.2, Option.some.injEq, true_and]
        · rw [if_neg hc]
          simp only [Bool.and_eq_true, beq_iff_eq] at hc
          constructor
          · intro h; cases h
          · intro h; exact absurd ⟨h.1, h.2.1⟩ hc
      · rename_i hg
        simp only [hg]
        constructor <;> intro h <;> cases h

theorem groupWordsWith_full (ops : List (EKind × Nat × Nat)) (input pred : List (List Nat))
    (matching correct : List Nat) (h : groupWordsWith ops input pred matching = some correct)
    (hM : ∀ k, k < (wordBoundaries pred).length → matching.contains k = true) :
    ∀ x, x < (wordBoundaries input).length → x ∈ correct := by
  intro x hx
  rcases groupWordsWith_eq_some.mp h with ⟨_, rfl⟩ | ⟨_, h2, _⟩ | ⟨_, _, hg⟩
  · exact List.mem_range.mpr hx
  · rw [h2] at hx
    exact absurd hx (Nat.not_lt_zero _)
  · exact (groupLoop_full _ _ _ _ _ _ _ _ _ _ _ hg hM).2.2.2 x (Nat.zero_le _) hx

end Tu

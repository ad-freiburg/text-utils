/-
  The special-token machinery: positions in a vocabulary list, `Special` ids as `offset + position`,
  what `new_base_tokenizer` guarantees, the pieces of `split_input`, and `de_tokenize` of the byte
  tokenizer on them.
-/
import TuModel.Model.ByteTok
import TuModel.Lemmas.ListL
namespace Tu

/-- position of the first occurrence: what both `idxOf` (special tokens) and `natIdxOf` (alphabet)
unfold to -/
def firstIdx {α : Type} [BEq α] (l : List α) (x : α) : Option Nat :=
  if l.idxOf x < l.length then some (l.idxOf x) else none

section
variable {α : Type} [BEq α] [LawfulBEq α] {l : List α} {x : α} {i : Nat}

theorem firstIdx_eq_some (h : firstIdx l x = some i) : l[i]? = some x := by
  unfold firstIdx at h
  split at h
  next hlt => cases h; rw [List.getElem?_eq_getElem hlt, List.getElem_idxOf]
  next => cases h

theorem firstIdx_of_getElem? (hn : l.Nodup) (h : l[i]? = some x) : firstIdx l x = some i := by
  obtain ⟨hi, rfl⟩ := List.getElem?_eq_some_iff.1 h
  rw [firstIdx, hn.idxOf_getElem i hi, if_pos hi]

theorem firstIdx_eq_none : firstIdx l x = none ↔ x ∉ l := by
  rw [firstIdx, ← List.idxOf_lt_length_iff]
  split <;> simp [*]

theorem firstIdx_of_mem (h : x ∈ l) : ∃ i, firstIdx l x = some i :=
  Option.ne_none_iff_exists'.1 fun hn => firstIdx_eq_none.1 hn h

end

theorem idToToken_eq_some {sp : Special} {id : Nat} {t : List Nat} :
    sp.idToToken id = some t ↔ sp.offset ≤ id ∧ sp.tokens[id - sp.offset]? = some t := by
  unfold Special.idToToken
  split
  next h => exact ⟨nofun, fun h' => absurd h (Nat.not_lt.2 h'.1)⟩
  next h => exact ⟨fun h' => ⟨Nat.le_of_not_lt h, h'⟩, fun h' => h'.2⟩

theorem idToToken_offset (sp : Special) (i : Nat) : sp.idToToken (sp.offset + i) = sp.tokens[i]? := by
  rw [Special.idToToken, if_neg (Nat.not_lt.2 (Nat.le_add_right _ _)), Nat.add_sub_cancel_left]

theorem idToToken_isSome {sp : Special} {id : Nat} (h : (sp.idToToken id).isSome = true) :
    sp.offset ≤ id ∧ id < sp.offset + sp.tokens.length := by
  obtain ⟨t, ht⟩ := Option.isSome_iff_exists.1 h
  obtain ⟨h1, h2⟩ := idToToken_eq_some.1 ht
  have := (List.getElem?_eq_some_iff.1 h2).1
  omega

theorem idToToken_of_tokenToId {sp : Special} {t : List Nat} {id : Nat} (h : sp.tokenToId t = some id) :
    sp.idToToken id = some t := by
  obtain ⟨i, hi, rfl⟩ := Option.map_eq_some_iff.1 h
  rw [idToToken_offset]
  exact firstIdx_eq_some hi

theorem tokenToId_of_idToToken {sp : Special} (hn : sp.tokens.Nodup) {id : Nat} {t : List Nat}
    (h : sp.idToToken id = some t) : sp.tokenToId t = some id := by
  obtain ⟨h1, h2⟩ := idToToken_eq_some.1 h
  exact (congrArg (Option.map (sp.offset + ·)) (firstIdx_of_getElem? hn h2)).trans
    (congrArg some (Nat.add_sub_cancel' h1))

theorem tokenToId_none_of_not_mem (sp : Special) (t : List Nat) (h : t ∉ sp.tokens) :
    sp.tokenToId t = none :=
  congrArg (Option.map (sp.offset + ·)) (firstIdx_eq_none.2 h)

theorem mem_of_tokenToId_some (sp : Special) (t : List Nat) (id : Nat) (h : sp.tokenToId t = some id) :
    t ∈ sp.tokens :=
  List.mem_of_getElem? (idToToken_eq_some.1 (idToToken_of_tokenToId h)).2

theorem getElem?_append_tokens (sp : Special) (reg : List (List Nat)) (ho : sp.offset = reg.length) (id : Nat) :
    (reg ++ sp.tokens)[id]? = if id < reg.length then reg[id]? else sp.idToToken id := by
  rw [List.getElem?_append, Special.idToToken, ho]
  split
  next h => rfl
  next h => rfl

/-- the pad, prefix and suffix ids that `new_base_tokenizer` looks up are ids of special tokens -/
theorem mkSpecial_ids {offset : Nat} {tokens : List (List Nat)} {pad : List Nat} {pre suf : List (List Nat)}
    {sp : Special} (h : mkSpecial offset tokens pad pre suf = some sp) :
    sp.offset = offset ∧ sp.tokens = uniq tokens ∧
    ∀ id ∈ sp.padId :: (sp.prefixIds ++ sp.suffixIds), (sp.idToToken id).isSome = true := by
  unfold mkSpecial at h
  simp only at h
  split at h
  · rename_i p s pd hp hs hpd
    cases h
    have look : ∀ {t id}, (idxOf (uniq tokens) t).map (offset + ·) = some id →
        (Special.idToToken ⟨uniq tokens, offset, pd, p, s⟩ id).isSome = true := fun ht =>
      Option.isSome_of_eq_some (idToToken_of_tokenToId (sp := ⟨uniq tokens, offset, pd, p, s⟩) ht)
    refine ⟨rfl, rfl, fun id hid => ?_⟩
    rcases List.mem_cons.1 hid with rfl | hid
    · exact look hpd
    · rcases List.mem_append.1 hid with hid | hid
      · obtain ⟨t, _, ht⟩ := mem_of_mapM_some hp id hid
        exact look ht
      · obtain ⟨t, _, ht⟩ := mem_of_mapM_some hs id hid
        exact look ht
  · simp at h

theorem matchAt_some {toks : List (List Nat)} {i : Nat} {s : List Nat} {j : Nat} {t : List Nat}
    (h : matchAt toks i s = some (j, t)) :
    t ≠ [] ∧ t.isPrefixOf s = true ∧ i ≤ j ∧ toks[j - i]? = some t := by
  induction toks generalizing i with
  | nil => simp [matchAt] at h
  | cons u us ih =>
    unfold matchAt at h
    split at h
    · rename_i hc
      simp at h
      obtain ⟨rfl, rfl⟩ := h
      simp only [Bool.and_eq_true, Bool.not_eq_true', List.isEmpty_eq_false_iff] at hc
      exact ⟨hc.1, hc.2, Nat.le_refl _, by simp⟩
    · obtain ⟨h1, h2, h3, h4⟩ := ih h
      refine ⟨h1, h2, by omega, ?_⟩
      have : j - i = (j - (i + 1)) + 1 := by omega
      rw [this, List.getElem?_cons_succ]; exact h4

theorem flushReg_bytes (cur : List Nat) : (flushReg cur).flatMap Piece.bytes = cur.reverse := by
  unfold flushReg; split
  · rename_i h; simp at h; simp [h]
  · simp [Piece.bytes]

theorem splitAux_concat (toks : List (List Nat)) : ∀ (fuel : Nat) (s cur : List Nat), s.length < fuel →
    (splitAux toks fuel s cur).flatMap Piece.bytes = cur.reverse ++ s := by
  intro fuel
  induction fuel with
  | zero => intro s cur h; omega
  | succ fuel ih =>
    intro s cur h
    cases s with
    | nil => simp [splitAux, flushReg_bytes]
    | cons b rest =>
      simp only [splitAux]
      split
      · rename_i i t hm
        obtain ⟨hne, hp, _, _⟩ := matchAt_some hm
        have hlen := List.length_pos_iff.2 hne
        have := ih ((b :: rest).drop t.length) [] (by simp at h ⊢; omega)
        simp only [List.flatMap_append, List.flatMap_cons, flushReg_bytes, Piece.bytes, this, List.reverse_nil, List.nil_append]
        rw [List.prefix_iff_eq_append.1 (List.isPrefixOf_iff_prefix.1 hp)]
      · have := ih rest (b :: cur) (by simp at h; omega)
        rw [this]; simp

theorem splitInput_concat (sp : Special) (s : List Nat) (ign : Bool) :
    (splitInput sp s ign).flatMap Piece.bytes = s := by
  unfold splitInput
  split
  · simp [Piece.bytes]
  · rw [splitAux_concat _ _ _ _ (by omega)]; simp

theorem splitAux_special (toks : List (List Nat)) : ∀ (fuel : Nat) (s cur : List Nat) (i : Nat) (b : List Nat),
    Piece.special i b ∈ splitAux toks fuel s cur → toks[i]? = some b := by
  intro fuel
  induction fuel with
  | zero => intro s cur i b h; simp [splitAux, flushReg] at h
  | succ fuel ih =>
    intro s cur i b h
    cases s with
    | nil => simp [splitAux, flushReg] at h
    | cons c rest =>
      simp only [splitAux] at h
      split at h
      · rename_i j t hm
        obtain ⟨_, _, _, h4⟩ := matchAt_some hm
        simp only [List.mem_append, List.mem_cons] at h
        rcases h with h | h | h
        · simp [flushReg] at h
        · injection h with h1 h2; subst h1; subst h2; simpa using h4
        · exact ih _ _ _ _ h
      · exact ih _ _ _ _ h

theorem splitInput_special (sp : Special) (s : List Nat) (ign : Bool) (i : Nat) (b : List Nat)
    (h : Piece.special i b ∈ splitInput sp s ign) : sp.tokens[i]? = some b := by
  unfold splitInput at h
  split at h
  · simp at h
  · exact splitAux_special _ _ _ _ _ _ h

theorem splitInput_regular_mem (sp : Special) (s : List Nat) (ign : Bool) (r : List Nat)
    (h : Piece.regular r ∈ splitInput sp s ign) : ∀ x ∈ r, x ∈ s := by
  intro x hx
  have : x ∈ (splitInput sp s ign).flatMap Piece.bytes := by
    simp only [List.mem_flatMap]; exact ⟨_, h, by simpa [Piece.bytes] using hx⟩
  rwa [splitInput_concat] at this

/-- decoding one more token in front commutes with decoding the rest of a concatenation -/
theorem map_bind_append (f : List Nat → List Nat) (hf : ∀ u v, f (u ++ v) = f u ++ v) (x y : Option (List Nat)) :
    (x.bind fun u => y.map (u ++ ·)).map f = (x.map f).bind fun u => y.map (u ++ ·) := by
  cases x with
  | none => rfl
  | some u => cases y with
    | none => rfl
    | some v => exact congrArg some (hf u v)

theorem byteDetokBytes_append (sp : Special) (ign : Bool) (a b : List Nat) :
    byteDetokBytes sp ign (a ++ b) =
      (byteDetokBytes sp ign a).bind (fun x => (byteDetokBytes sp ign b).map (x ++ ·)) := by
  induction a with
  | nil => exact (Option.map_id' (x := byteDetokBytes sp ign b)).symm
  | cons id ids ih =>
    simp only [List.cons_append, byteDetokBytes]
    split
    · rw [ih, map_bind_append _ fun _ _ => rfl]
    split
    · exact ih
    split
    · rw [ih, map_bind_append _ fun _ _ => (List.append_assoc _ _ _).symm]
    · rfl

theorem byteDetokBytes_regular (sp : Special) (ign : Bool) (r : List Nat) (h : ∀ x ∈ r, x < 256) :
    byteDetokBytes sp ign r = some r := by
  induction r with
  | nil => rfl
  | cons x r ih =>
    have hx := h x List.mem_cons_self
    simp [byteDetokBytes, hx, ih (fun y hy => h y (List.mem_cons_of_mem _ hy))]

theorem byteDetokBytes_pieces (sp : Special) (ho : 256 ≤ sp.offset) (ps : List Piece)
    (hreg : ∀ r, Piece.regular r ∈ ps → ∀ x ∈ r, x < 256)
    (hspec : ∀ i b, Piece.special i b ∈ ps → sp.tokens[i]? = some b) :
    byteDetokBytes sp false (ps.flatMap (pieceIds sp)) = some (ps.flatMap Piece.bytes) := by
  induction ps with
  | nil => rfl
  | cons p ps ih =>
    have ih := ih (fun r hr => hreg r (List.mem_cons_of_mem _ hr)) (fun i b hb => hspec i b (List.mem_cons_of_mem _ hb))
    simp only [List.flatMap_cons, byteDetokBytes_append, ih]
    cases p with
    | regular r =>
      simp [pieceIds, Piece.bytes, byteDetokBytes_regular sp false r (hreg r List.mem_cons_self)]
    | special i b =>
      have := hspec i b List.mem_cons_self
      have hlt : ¬ sp.offset + i < 256 := by omega
      simp [pieceIds, Piece.bytes, byteDetokBytes, hlt, idToToken_offset, this]

def specialBytes (sp : Special) (ids : List Nat) : List Nat := ids.flatMap (fun id => (sp.idToToken id).getD [])

theorem byteDetokBytes_specials (sp : Special) (ho : 256 ≤ sp.offset) (ids : List Nat)
    (h : ∀ id ∈ ids, (sp.idToToken id).isSome = true) :
    byteDetokBytes sp false ids = some (specialBytes sp ids) := by
  induction ids with
  | nil => rfl
  | cons id ids ih =>
    have h2 := h id List.mem_cons_self
    have ih := ih (fun x hx => h x (List.mem_cons_of_mem _ hx))
    have hlt : ¬ id < 256 := by have := (idToToken_isSome h2).1; omega
    cases ht : sp.idToToken id with
    | none => simp [ht] at h2
    | some t => simp [byteDetokBytes, hlt, ht, ih, specialBytes]

end Tu

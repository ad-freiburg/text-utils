/-
  Lemmas about the `CharString` index arithmetic (Model/CharString.lean): run-length encoding,
  `byte_start_end` as prefix sums, and the size function (byte sum) at which `findSubseqSum` is the
  generic enumeration of Lemmas/SubseqL.lean.
-/
import TuModel.Model.CharString
import TuModel.Lemmas.WindowsL
import TuModel.Lemmas.SubseqL
namespace Tu

theorem rleAux_nil (v c : Nat) : rleAux v c [] = [(v, c)] := by rw [rleAux]

theorem rleAux_cons_eq (v c : Nat) (xs : List Nat) : rleAux v c (v :: xs) = rleAux v (c + 1) xs := by
  rw [rleAux]; simp

theorem rleAux_cons_ne (v c x : Nat) (xs : List Nat) (h : x ≠ v) :
    rleAux v c (x :: xs) = (v, c) :: rleAux x 1 xs := by
  rw [rleAux]; simp [h]

theorem rld_nil : rld [] = [] := by rw [rld]

theorem rld_cons (v c : Nat) (r : List (Nat × Nat)) : rld ((v, c) :: r) = List.replicate c v ++ rld r := by
  rw [rld]

theorem rld_rleAux (xs : List Nat) (v c : Nat) : rld (rleAux v c xs) = List.replicate c v ++ xs := by
  fun_induction rleAux v c xs with
  | case1 v c => rw [rld_cons, rld_nil]
  | case2 v c xs ih => rw [ih, List.replicate_succ', List.append_assoc]; rfl
  | case3 v c x xs h ih => rw [rld_cons, ih]; rfl

theorem length_rld (r : List (Nat × Nat)) : (rld r).length = (r.map (·.2)).sum := by
  induction r with
  | nil => rfl
  | cons p r ih => rw [rld_cons, List.length_append, List.length_replicate, ih, List.map_cons, List.sum_cons]

theorem rleAux_counts_pos (xs : List Nat) (v c : Nat) (hc : 0 < c) : ∀ p ∈ rleAux v c xs, 0 < p.2 := by
  fun_induction rleAux v c xs with
  | case1 v c => exact fun p hp => List.mem_singleton.mp hp ▸ hc
  | case2 v c xs ih => exact ih (Nat.succ_pos _)
  | case3 v c x xs h ih => exact List.forall_mem_cons.mpr ⟨hc, ih Nat.one_pos⟩

theorem rleAux_head (xs : List Nat) (v c : Nat) : ∃ c' r, rleAux v c xs = (v, c') :: r := by
  fun_induction rleAux v c xs with
  | case1 v c => exact ⟨c, [], rfl⟩
  | case2 v c xs ih => exact ih
  | case3 v c x xs h ih => exact ⟨c, _, rfl⟩

theorem rleAux_adjacent_ne (xs : List Nat) (v c : Nat) : ∀ (i : Nat) (a b : Nat × Nat),
    (rleAux v c xs)[i]? = some a → (rleAux v c xs)[i + 1]? = some b → a.1 ≠ b.1 := by
  fun_induction rleAux v c xs with
  | case1 v c => exact fun i a b _ h => nomatch h
  | case2 v c xs ih => exact ih
  | case3 v c x xs hx ih =>
    intro i a b ha hb
    cases i with
    | zero =>
      obtain ⟨c', r, hr⟩ := rleAux_head xs x 1
      rw [hr] at hb
      cases ha; cases hb
      exact fun h => hx h.symm
    | succ j => exact ih j a b ha hb

theorem byteStartEndAux_nil (n start total : Nat) : byteStartEndAux [] n start total = none := by
  rw [byteStartEndAux]

theorem byteStartEndAux_cons (nb cnt : Nat) (r : List (Nat × Nat)) (n start total : Nat) :
    byteStartEndAux ((nb, cnt) :: r) n start total =
      if n < total + cnt then some (start + nb * (n - total), start + nb * (n - total) + nb)
      else byteStartEndAux r n (start + cnt * nb) (total + cnt) := by
  rw [byteStartEndAux]

/-- the loop over an arbitrary run list computes the prefix sums of the decoded list, shifted by the
two accumulators (`j` characters beyond the `total` already skipped) -/
theorem byteStartEndAux_spec : ∀ (r : List (Nat × Nat)) (j start total : Nat),
    byteStartEndAux r (total + j) start total =
      if j < (rld r).length then some (start + byteOf (rld r) j, start + byteOf (rld r) (j + 1)) else none := by
  intro r
  induction r with
  | nil =>
    intro j start total
    rw [byteStartEndAux_nil, rld_nil]
    exact (if_neg (Nat.not_lt_zero _)).symm
  | cons p r ih =>
    obtain ⟨nb, cnt⟩ := p
    intro j start total
    rw [byteStartEndAux_cons, rld_cons, List.length_append, List.length_replicate]
    by_cases h : j < cnt
    · rw [if_pos (Nat.add_lt_add_left h _), if_pos (Nat.lt_add_right _ h), Nat.add_sub_cancel_left,
        byteOf_replicate_append_le _ _ _ (Nat.le_of_lt h), byteOf_replicate_append_le _ _ _ h, Nat.succ_mul,
        Nat.mul_comm, Nat.add_assoc]
    · obtain ⟨i, rfl⟩ := Nat.exists_eq_add_of_le (Nat.le_of_not_lt h)
      rw [if_neg (Nat.not_lt.mpr (Nat.add_le_add_left (Nat.le_add_right ..) _)), ← Nat.add_assoc, ih,
        Nat.add_assoc cnt, byteOf_replicate_append_add, byteOf_replicate_append_add]
      simp only [Nat.add_lt_add_iff_left, Nat.add_assoc]

theorem byteStartEnd_spec (r : List (Nat × Nat)) (n : Nat) :
    byteStartEnd r n =
      if n < (rld r).length then some (byteOf (rld r) n, byteOf (rld r) (n + 1)) else none := by
  have := byteStartEndAux_spec r n 0 0
  rwa [Nat.zero_add, Nat.zero_add, Nat.zero_add] at this

theorem allSome_nil {α : Type _} : allSome ([] : List (Option α)) = some [] := by rw [allSome]

theorem allSome_none {α : Type _} (r : List (Option α)) : allSome (none :: r) = none := by rw [allSome]

theorem allSome_some {α : Type _} (x : α) (r : List (Option α)) :
    allSome (some x :: r) = (allSome r).map (x :: ·) := by rw [allSome]

theorem allSome_map_some {α β : Type _} (f : α → Option β) (g : α → β) :
    ∀ (xs : List α), (∀ x ∈ xs, f x = some (g x)) → allSome (xs.map f) = some (xs.map g) := by
  intro xs
  induction xs with
  | nil => intro _; simp [allSome_nil]
  | cons x xs ih =>
    intro h
    rw [List.map_cons, h x List.mem_cons_self, allSome_some, ih (fun y hy => h y (List.mem_cons_of_mem _ hy))]
    simp

/-- the size function handed to the generic loops by `findSubseqSum` -/
def sumSz (l : List Nat) : Nat → Nat → Nat := fun s e => ((l.drop s).take (e - s)).sum

theorem sumSz_byteOf (l : List Nat) (s e : Nat) (h : s ≤ e) : sumSz l s e = byteOf l e - byteOf l s := by
  have := byteOf_add l s (e - s)
  rw [Nat.add_sub_cancel' h] at this
  exact (Nat.sub_eq_of_eq_add' this).symm

theorem sumSz_one (l : List Nat) (i : Nat) (h : i < l.length) : sumSz l i (i + 1) = l[i] := by
  rw [sumSz_byteOf l i (i + 1) (Nat.le_succ _), byteOf_succ l i h, Nat.add_sub_cancel_left]

theorem sumSz_self_le (l : List Nat) (k s : Nat) : sumSz l s s ≤ k := by
  unfold sumSz; rw [Nat.sub_self, List.take_zero]; exact Nat.zero_le _

theorem sumSz_mono (l : List Nat) (s s' e e' : Nat) (hs : s' ≤ s) (he : e ≤ e') : sumSz l s e ≤ sumSz l s' e' := by
  by_cases h : s ≤ e
  · rw [sumSz_byteOf l s e h, sumSz_byteOf l s' e' (by omega)]
    have := byteOf_mono l hs
    have := byteOf_mono l he
    omega
  · unfold sumSz
    rw [Nat.sub_eq_zero_of_le (by omega), List.take_zero]
    exact Nat.zero_le _

theorem findSubseqSum_eq (l : List Nat) (k : Nat) : findSubseqSum l k = subseqs (sumSz l) l.length k := rfl

end Tu

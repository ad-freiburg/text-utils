/-
  C03 — BPE merges are the canonical ones: the heap-driven loop `merge_bytes` (model
  `Tu.mergeWordImpl`, Model/Bpe.lean) computes, for every well-formed merge table and every word of
  bytes, exactly the segmentation of the property's own definition `Tu.mergeWordSpec`: repeatedly
  merge, among all adjacent token pairs whose concatenation is a table key, the one with the lowest
  merge id (leftmost on ties), until no adjacent pair is mergeable.

  Proof (Lemmas/BpeSpec, BpeCells, BpeMerge): refinement invariant `Tu.Inv` between an `MState` and
  the token list `live st.bytes` (the non-empty cells in order).  Every live cell carries the id of
  its bytes and an id determines its bytes (`IdOK.inj`), so a heap entry whose recorded ids are the
  current ones denotes two adjacent live cells and their concatenation: an invalid entry is stale
  (`valid_entry`).  Every mergeable adjacent pair has such an entry, and the popped entry is least
  in `(mid, fst)`, so the first non-stale one is the `bestPair` of the token list
  (`pop_fresh_best`).  `heap.length + 2 * #live` decreases in every iteration, so the fuel
  `3 * |w| + 3` is never exhausted (`mergeLoop_spec`).
-/
import TuModel.Lemmas.BpeMerge
namespace Tu.C03
open Tu

/-- the heap-driven loop computes the canonical lowest-id-leftmost segmentation -/
theorem mergeWordImpl_eq_spec (t : MTable) (w : List Nat) (hwf : wfTable t = true) (hw : ∀ b ∈ w, b < 256) :
    mergeWordImpl t w = mergeWordSpec t w := by
  obtain ⟨ids, h1, h2, _⟩ := mergeWordImpl_run t w hwf hw
  rw [h1, h2]

/-- the result of the canonical procedure is terminal: no adjacent pair of result tokens is a table key -/
theorem specLoop_terminal (t : MTable) (w : List Nat) :
    bestPair t (specLoop t w.length (w.map (fun b => [b]))) 0 = none :=
  specLoop_terminal_aux t w.length _ (by simp)

/-- `bestPair … = none` says what it should: no adjacent pair of tokens concatenates to a key -/
theorem terminal_iff (t : MTable) (toks : List (List Nat)) :
    bestPair t toks 0 = none ↔
      ∀ k, k + 1 < toks.length → tlookup t (toks.getD k [] ++ toks.getD (k + 1) []) = none := by
  rw [bestPair_eq_none_iff]
  exact ⟨fun h k hk => Option.eq_none_iff_forall_ne_some.mpr fun m hl => h k m ⟨hk, hl⟩,
    fun h k m ⟨hk, hl⟩ => Option.some_ne_none m (hl.symm.trans (h k hk))⟩

/-- `bestPair` picks a mergeable position with the lowest merge id, leftmost on ties -/
theorem bestPair_is_min (t : MTable) (toks : List (List Nat)) (m k : Nat) :
    bestPair t toks 0 = some (m, k) ↔
      (k + 1 < toks.length ∧ tlookup t (toks.getD k [] ++ toks.getD (k + 1) []) = some m ∧
        ∀ k' m', k' + 1 < toks.length → tlookup t (toks.getD k' [] ++ toks.getD (k' + 1) []) = some m' →
          m < m' ∨ (m = m' ∧ k ≤ k')) := by
  rw [bestPair_eq_some_iff]
  exact ⟨fun ⟨⟨h1, h2⟩, h3⟩ => ⟨h1, h2, fun k' m' a b => h3 k' m' ⟨a, b⟩⟩,
    fun ⟨h1, h2, h3⟩ => ⟨⟨h1, h2⟩, fun k' m' h => h3 k' m' h.1 h.2⟩⟩

/-- the fuel of the model's loop is never exhausted -/
theorem mergeWordImpl_isSome (t : MTable) (w : List Nat) (hwf : wfTable t = true) (hw : ∀ b ∈ w, b < 256) :
    (mergeWordImpl t w).isSome = true := by
  obtain ⟨ids, h1, _⟩ := mergeWordImpl_run t w hwf hw
  rw [h1]; rfl

/-! non-vacuity: a well-formed table with chained merges; the theorems apply to it -/
example : wfTable [([97, 98], 0), ([99, 100], 1), ([97, 98, 99], 2), ([97, 98, 99, 100], 3)] = true := by decide +kernel
example : mergeWordImpl [([97, 98], 0), ([99, 100], 1), ([97, 98, 99], 2), ([97, 98, 99, 100], 3)]
    [97, 98, 99, 100] = some [259] := by decide +kernel
example : mergeWordSpec [([97, 98], 0), ([99, 100], 1), ([97, 98, 99], 2), ([97, 98, 99, 100], 3)]
    [97, 98, 99, 100] = some [259] := by
  rw [← mergeWordImpl_eq_spec _ _ (by decide +kernel) (by decide)]
  decide +kernel

end Tu.C03

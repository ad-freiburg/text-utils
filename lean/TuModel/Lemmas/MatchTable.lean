import TuModel.Lemmas.MatchL
namespace Tu

/-- LCS length of the prefixes of length `i` and `j` -/
def refL (a b : List (List Nat)) (i j : Nat) : Nat := lcsR (a.take i).reverse (b.take j).reverse

theorem refL_zero_left (a b : List (List Nat)) (j : Nat) : refL a b 0 j = 0 := lcsR_nil_left _

theorem refL_zero_right (a b : List (List Nat)) (i : Nat) : refL a b i 0 = 0 := lcsR_nil_right _

theorem refL_succ (a b : List (List Nat)) (i j : Nat) (hi : i < a.length) (hj : j < b.length) :
    refL a b (i + 1) (j + 1) =
      (maxByFst (mCandidates (a.getD i [] == b.getD j []) (refL a b i (j + 1)) (refL a b (i + 1) j) (refL a b i j))).1 := by
  unfold refL
  rw [take_succ_reverse a i hi, take_succ_reverse b j hj, lcsR_cons]

/-- what the operation recorded in a cell promises: `MOpOK a b i j op` for cell `(i, j)` -/
inductive MOpOK (a b : List (List Nat)) : Nat → Nat → MOp → Prop
  | zero : MOpOK a b 0 0 .unmatched
  | delete {i j} : refL a b (i + 1) j = refL a b i j → MOpOK a b (i + 1) j .delete
  | insert {i j} : refL a b i (j + 1) = refL a b i j → MOpOK a b i (j + 1) .insert
  | matched {i j} : a.getD i [] = b.getD j [] → refL a b (i + 1) (j + 1) = refL a b i j + 1 →
      MOpOK a b (i + 1) (j + 1) .matched
  | unmatched {i j} : refL a b (i + 1) (j + 1) = refL a b i j → MOpOK a b (i + 1) (j + 1) .unmatched

def MCellOK (a b : List (List Nat)) (i j : Nat) (v : Nat × MOp) : Prop :=
  v.1 = refL a b i j ∧ MOpOK a b i j v.2

theorem mStep_ok (a b : List (List Nat)) (get : Nat → Nat → Nat × MOp) (i j : Nat)
    (hi : i ≤ a.length) (hj : j ≤ b.length)
    (hget : ∀ i' j', (i' < i ∨ (i' = i ∧ j' < j)) → j' ≤ b.length → MCellOK a b i' j' (get i' j')) :
    MCellOK a b i j (mStep a b get i j) := by
  cases i with
  | zero =>
    cases j with
    | zero => exact ⟨(refL_zero_left a b 0).symm, .zero⟩
    | succ j => exact ⟨(refL_zero_left a b _).symm, .insert (by rw [refL_zero_left, refL_zero_left])⟩
  | succ i =>
    cases j with
    | zero => exact ⟨(refL_zero_right a b _).symm, .delete (by rw [refL_zero_right, refL_zero_right])⟩
    | succ j =>
      have hrec := refL_succ a b i j hi hj
      rw [mStep, (hget i (j + 1) (.inl (Nat.lt_succ_self i)) hj).1,
        (hget (i + 1) j (.inr ⟨rfl, Nat.lt_succ_self j⟩) (Nat.le_of_succ_le hj)).1,
        (hget i j (.inl (Nat.lt_succ_self i)) (Nat.le_of_succ_le hj)).1]
      refine ⟨hrec.symm, ?_⟩
      rcases mem_mCandidates.mp (maxByFst_mem (List.cons_ne_nil _ _)) with h | h | ⟨he, h⟩ | ⟨_, h⟩
      · rw [h]; exact .delete (by rw [hrec, h])
      · rw [h]; exact .insert (by rw [hrec, h])
      · rw [h]; exact .matched (beq_iff_eq.mp he) (by rw [hrec, h])
      · rw [h]; exact .unmatched (by rw [hrec, h])

theorem mFill_ok (a b : List (List Nat)) :
    ∀ i j, i ≤ a.length → j ≤ b.length → MCellOK a b i j (mGet (mFill a b) (b.length + 1) i j) := by
  unfold mFill mGet
  exact flat_fill_spec (0, MOp.none) (mStep a b) a.length b.length (MCellOK a b) (mStep_ok a b)

/-- what the backtrace may hold in its accumulator on arriving at cell `(i, j)`: a matching of `a[i..]` with `b[j..]` -/
structure MatchOK (a b : List (List Nat)) (i j : Nat) (l : List (Nat × Nat)) : Prop where
  bound : ∀ p ∈ l, i ≤ p.1 ∧ j ≤ p.2
  eq : ∀ p ∈ l, p.1 < a.length ∧ p.2 < b.length ∧ a.getD p.1 [] = b.getD p.2 []
  incr : l.Pairwise (fun p q => p.1 < q.1 ∧ p.2 < q.2)

theorem MatchOK.mono {a b i j i' j' l} (h : MatchOK a b i j l) (hi : i' ≤ i) (hj : j' ≤ j) : MatchOK a b i' j' l :=
  ⟨fun p hp => ⟨Nat.le_trans hi (h.bound p hp).1, Nat.le_trans hj (h.bound p hp).2⟩, h.eq, h.incr⟩

theorem MatchOK.cons {a b i j l} (h : MatchOK a b (i + 1) (j + 1) l) (hi : i < a.length) (hj : j < b.length)
    (he : a.getD i [] = b.getD j []) : MatchOK a b i j ((i, j) :: l) :=
  ⟨List.forall_mem_cons.mpr ⟨⟨Nat.le_refl _, Nat.le_refl _⟩, (h.mono (Nat.le_succ _) (Nat.le_succ _)).bound⟩,
    List.forall_mem_cons.mpr ⟨⟨hi, hj, he⟩, h.eq⟩, List.pairwise_cons.mpr ⟨h.bound, h.incr⟩⟩

/-- on the filled table the backtrace never reaches its panic branch; it extends a matching from cell `(i, j)` on by
as many pairs as the cell's value -/
theorem mBacktrace_ok (a b : List (List Nat)) :
    ∀ (fuel i j : Nat) (acc : List (Nat × Nat)), i ≤ a.length → j ≤ b.length → i + j < fuel → MatchOK a b i j acc →
      ∃ m, mBacktrace (mFill a b) (b.length + 1) fuel i j acc = some m ∧ MatchOK a b 0 0 m ∧
        m.length = refL a b i j + acc.length := by
  intro fuel
  induction fuel with
  | zero => intro i j acc _ _ h; omega
  | succ fuel ih =>
    intro i j acc hi hj hf hok
    rw [mBacktrace]
    by_cases h0 : i = 0 ∧ j = 0
    · rw [if_pos h0]
      obtain ⟨rfl, rfl⟩ := h0
      exact ⟨acc, rfl, hok, by rw [refL_zero_left, Nat.zero_add]⟩
    · rw [if_neg h0]
      obtain ⟨_, hop⟩ := mFill_ok a b i j hi hj
      generalize (mGet (mFill a b) (b.length + 1) i j).2 = op at hop ⊢
      cases hop with
      | zero => exact absurd ⟨rfl, rfl⟩ h0
      | @delete i' _ hl =>
        dsimp only
        rw [if_pos (Nat.le_add_left 1 i'), hl]
        exact ih i' j acc (Nat.le_of_succ_le hi) hj (by omega) (hok.mono (Nat.le_succ _) (Nat.le_refl _))
      | @insert _ j' hl =>
        dsimp only
        rw [if_pos (Nat.le_add_left 1 j'), hl]
        exact ih i j' acc hi (Nat.le_of_succ_le hj) (by omega) (hok.mono (Nat.le_refl _) (Nat.le_succ _))
      | @matched i' j' he hl =>
        dsimp only
        rw [if_pos ⟨Nat.le_add_left 1 i', Nat.le_add_left 1 j'⟩, hl, Nat.add_right_comm]
        exact ih i' j' _ (Nat.le_of_succ_le hi) (Nat.le_of_succ_le hj) (by omega) (hok.cons hi hj he)
      | @unmatched i' j' hl =>
        dsimp only
        rw [if_pos ⟨Nat.le_add_left 1 i', Nat.le_add_left 1 j'⟩, hl]
        exact ih i' j' acc (Nat.le_of_succ_le hi) (Nat.le_of_succ_le hj) (by omega)
          (hok.mono (Nat.le_succ _) (Nat.le_succ _))

end Tu

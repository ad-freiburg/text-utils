/-
  Progress measure and enabledness for the `Pipe` model, on the step relation `PStep` (Lemmas/PipeL.lean): every
  action other than `drop` is a stutter (failed spin) or strictly decreases `pmeasure`; a worker that has not
  exited can always make (or let another worker make) a measure-decreasing move unless it is blocked on a full
  channel; after `drop` no worker takes more than one further item.
-/
import TuModel.Lemmas.PipeInv
namespace Tu

theorem pcRank_idle : pcRank .idle = 1 := rfl
theorem pcRank_exited : pcRank .exited = 0 := rfl
theorem pcRank_holding (i : Nat) : pcRank (.holding i) = 9 := rfl
theorem pcRank_computed (i : Nat) : pcRank (.computed i) = 7 := rfl
theorem pcRank_cleared (i : Nat) : pcRank (.cleared i) = 5 := rfl
theorem pcRank_sent (i : Nat) (ok : Bool) : pcRank (.sent i ok) = 3 := rfl

theorem Move.measure {N : Nat} {s t : PState} {w : Nat} {a : PAction} {p v : PC} (hw : w < s.W) (hpc : s.pc w = p)
    (m : Move s w a p v t) (hN : ∀ k, N ≤ k → s.src k = false) :
    pmeasure N { t with pc := setPc s.pc w v } < pmeasure N s := by
  have hr := wsum_setPc pcRank s.pc v hw
  rw [hpc] at hr
  rw [pmeasure_eq, pmeasure_eq]
  -- it is enough that the mover's own share decreases
  suffices h : 10 * (N - t.pulls) + pcRank v + t.chan.length < 10 * (N - s.pulls) + pcRank p + s.chan.length ∧
      t.W = s.W ∧ t.closed = s.closed by
    obtain ⟨h, e1, e2⟩ := h
    dsimp only; rw [e1, e2]; omega
  cases m with
  | takeSome hsrc =>
    have : s.pulls < N := Nat.lt_of_not_le fun hge => by rw [hN _ hge] at hsrc; cases hsrc
    have := Nat.sub_pos_of_lt this
    refine ⟨?_, rfl, rfl⟩
    show 10 * (N - (s.pulls + 1)) + 9 + s.chan.length < 10 * (N - s.pulls) + 1 + s.chan.length
    rw [Nat.sub_add_eq]; generalize N - s.pulls = d at *; omega
  | takeNone =>
    refine ⟨?_, rfl, rfl⟩
    show 10 * (N - (s.pulls + 1)) + 0 + s.chan.length < 10 * (N - s.pulls) + 1 + s.chan.length
    rw [Nat.sub_add_eq]; generalize N - s.pulls = d; omega
  | sendOk i =>
    refine ⟨?_, rfl, rfl⟩
    show 10 * (N - s.pulls) + 3 + (s.chan ++ [i]).length < 10 * (N - s.pulls) + 5 + s.chan.length
    rw [List.length_append, List.length_singleton]; omega
  | _ =>
    -- only the rank changes; both ranks are numerals, compared by evaluation
    exact ⟨Nat.add_lt_add_right (Nat.add_lt_add_left (Nat.le_of_ble_eq_true rfl) _) _, rfl, rfl⟩

theorem measure_recv {N : Nat} {s : PState} {x : Nat} {rest : List Nat} (hch : s.chan = x :: rest) :
    pmeasure N { s with chan := rest, recvd := s.recvd ++ [x] } < pmeasure N s := by
  rw [pmeasure_eq, pmeasure_eq, hch]
  dsimp only; rw [List.length_cons]; omega

theorem measure_close {N : Nat} {s : PState} (hc : s.closed = false) : pmeasure N { s with closed := true } < pmeasure N s := by
  rw [pmeasure_eq, pmeasure_eq, hc]
  exact Nat.lt_succ_self _

theorem pstep_measure {N : Nat} {s s' : PState} {a : PAction} (hN : ∀ k, N ≤ k → s.src k = false)
    (ha : a ≠ PAction.drop) (hs : pstep s a = some s') :
    s' = s ∨ pmeasure N s' < pmeasure N s := by
  cases PStep.of_pstep hs with
  | move hw hpc m => exact Or.inr (m.measure hw hpc hN)
  | wait => exact Or.inl rfl
  | recv hd hc hch => exact Or.inr (measure_recv hch)
  | close hd hc hch hall => exact Or.inr (measure_close hc)
  | drop => exact absurd rfl ha

/-- a worker that is not spinning on somebody else's turn can move, unless blocked on a full channel -/
theorem Move.exists_of_ready (s : PState) (w : Nat) {p : PC} (hne : p ≠ .exited) (hsp : ∀ i, p = .computed i → i = s.turn)
    (hg : s.dropped = true ∨ s.chan.length < s.W) :
    ∃ a v t, Move s w a p v t ∧ a ≠ .drop ∧ a ≠ .recv ∧ a ≠ .close := by
  cases p with
  | idle =>
    cases hs : s.src s.pulls
    · exact ⟨_, _, _, .takeNone hs, nofun, nofun, nofun⟩
    · exact ⟨_, _, _, .takeSome hs, nofun, nofun, nofun⟩
  | holding i => exact ⟨_, _, _, .compute i, nofun, nofun, nofun⟩
  | computed i => cases hsp i rfl; exact ⟨_, _, _, .spin, nofun, nofun, nofun⟩
  | cleared i =>
    cases hd : s.dropped
    · exact ⟨_, _, _, .sendOk i hd (hg.resolve_left (by rw [hd]; nofun)), nofun, nofun, nofun⟩
    · exact ⟨_, _, _, .sendFail i hd, nofun, nofun, nofun⟩
  | sent i ok =>
    cases ok
    · exact ⟨_, _, _, .quit i, nofun, nofun, nofun⟩
    · exact ⟨_, _, _, .advance i, nofun, nofun, nofun⟩
  | exited => exact absurd rfl hne

theorem ready_progress {N : Nat} {s : PState} {w : Nat} (hN : ∀ k, N ≤ k → s.src k = false)
    (hw : w < s.W) (hne : s.pc w ≠ .exited)
    (hsp : ∀ i, s.pc w = .computed i → i = s.turn)
    (hg : s.dropped = true ∨ s.chan.length < s.W) :
    ∃ a s', a ≠ PAction.drop ∧ a ≠ PAction.recv ∧ a ≠ PAction.close ∧
      pstep s a = some s' ∧ pmeasure N s' < pmeasure N s := by
  obtain ⟨a, v, t, m, h1, h2, h3⟩ := Move.exists_of_ready s w hne hsp hg
  exact ⟨a, _, h1, h2, h3, (PStep.move hw rfl m).pstep, m.measure hw rfl hN⟩

theorem worker_progress {W N : Nat} {src : Nat → Bool} {s : PState} (h : PInv W src s)
    (hN : ∀ k, N ≤ k → s.src k = false) (hrun : ¬ ∀ w, w < s.W → s.pc w = .exited)
    (hg : s.dropped = true ∨ s.chan.length < s.W) :
    ∃ a s', a ≠ PAction.drop ∧ a ≠ PAction.recv ∧ a ≠ PAction.close ∧
      pstep s a = some s' ∧ pmeasure N s' < pmeasure N s := by
  obtain ⟨w, hw'⟩ := Classical.not_forall.1 hrun
  obtain ⟨hw, hne⟩ := Classical.not_imp.1 hw'
  by_cases hsp : ∀ i, s.pc w = .computed i → i = s.turn
  · exact ready_progress hN hw hne hsp hg
  · -- `w` waits for another item's turn: the owner of `turn` is ready
    obtain ⟨i, hi⟩ := Classical.not_forall.1 hsp
    obtain ⟨hpc, _⟩ := Classical.not_imp.1 hi
    have ho := h.own_range (i := i) hw (by rw [hpc]; exact if_pos rfl)
    have hlt : s.turn < s.next := Nat.lt_of_le_of_lt ho.2.1 ho.2.2
    have hpos : 0 < wsum s.W s.pc (PC.own s.turn) := by
      rcases h.counters.own s.turn with ⟨_, _, h3⟩ | ⟨_, _⟩ <;> omega
    obtain ⟨u, hu, hui⟩ := exists_of_wsum_pos hpos
    apply ready_progress (w := u) hN hu _ _ hg
    · intro e; rw [e] at hui; cases hui
    · intro j hj; rw [hj] at hui
      exact Classical.byContradiction fun hne => by simp only [PC.own, if_neg hne] at hui; cases hui

theorem tl_idle : PC.tl .idle = 1 := rfl
theorem tl_exited : PC.tl .exited = 0 := rfl
theorem tl_holding (i : Nat) : PC.tl (.holding i) = 0 := rfl
theorem tl_computed (i : Nat) : PC.tl (.computed i) = 0 := rfl
theorem tl_cleared (i : Nat) : PC.tl (.cleared i) = 0 := rfl
theorem tl_sent_true (i : Nat) : PC.tl (.sent i true) = 1 := rfl
theorem tl_sent_false (i : Nat) : PC.tl (.sent i false) = 0 := rfl

theorem takesLeft_le (s : PState) : takesLeft s ≤ s.W :=
  takesLeft_eq s ▸ wsum_le (fun p => by
    cases p with
    | sent i ok => cases ok <;> simp [PC.tl]
    | _ => simp [PC.tl]) s.pc s.W

theorem drop_step {s s' : PState} {a : PAction} (hd : s.dropped = true) (hs : pstep s a = some s') :
    s'.dropped = true ∧ s'.next + takesLeft s' ≤ s.next + takesLeft s := by
  cases PStep.of_pstep hs with
  | @move w a p v t hw hpc m =>
    have hr := wsum_setPc PC.tl s.pc v hw
    rw [hpc] at hr
    rw [takesLeft_eq, takesLeft_eq]
    -- it is enough that the mover's own share does not grow
    suffices h : t.next + v.tl ≤ s.next + p.tl ∧ t.W = s.W ∧ t.dropped = s.dropped by
      obtain ⟨h, e1, e2⟩ := h
      dsimp only; rw [e1, e2]; exact ⟨hd, by omega⟩
    cases m with
    | sendOk i hd' => exact nomatch hd'.symm.trans hd
    | takeSome => exact ⟨Nat.le_refl _, rfl, rfl⟩
    -- `next` stays and `tl` of the new program counter is at most that of the old (both numerals)
    | _ => exact ⟨Nat.add_le_add_left (Nat.le_of_ble_eq_true rfl) _, rfl, rfl⟩
  | wait => exact ⟨hd, Nat.le_refl _⟩
  | recv hd' => exact nomatch hd'.symm.trans hd
  | close hd' => exact nomatch hd'.symm.trans hd
  | drop hd' => exact nomatch hd'.symm.trans hd

end Tu

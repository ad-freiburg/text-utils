/-
  The backtrace of `operations()` walks on the filled table from the last cell to `(0, 0)` and puts the operations
  it meets in front of its accumulator.  Its invariant is `Trace`: on arriving at cell `(i, j)` the accumulator is
  an edit script from that cell to the last one, each step justified by the two texts and the flags.  Everything
  said about the result (sorted, `opOk`, replaying it gives `b`) holds of every `Trace` from `(0, 0)`; only its
  length comes from the table.
-/
import TuModel.Lemmas.EditTable
namespace Tu

theorem applyScript_nil (a b : List (List Nat)) (pa : Nat) : applyScript a b [] pa = a.drop pa := rfl

theorem applyScript_insert (a b : List (List Nat)) (i j : Nat) (rest : List (EKind × Nat × Nat)) (pa : Nat) :
    applyScript a b ((.insert, i, j) :: rest) pa =
      (a.drop pa).take (i - pa) ++ b.getD j [] :: applyScript a b rest i := rfl

theorem applyScript_delete (a b : List (List Nat)) (i j : Nat) (rest : List (EKind × Nat × Nat)) (pa : Nat) :
    applyScript a b ((.delete, i, j) :: rest) pa =
      (a.drop pa).take (i - pa) ++ applyScript a b rest (i + 1) := rfl

theorem applyScript_replace (a b : List (List Nat)) (i j : Nat) (rest : List (EKind × Nat × Nat)) (pa : Nat) :
    applyScript a b ((.replace, i, j) :: rest) pa =
      (a.drop pa).take (i - pa) ++ b.getD j [] :: applyScript a b rest (i + 1) := rfl

theorem applyScript_swap (a b : List (List Nat)) (i j : Nat) (rest : List (EKind × Nat × Nat)) (pa : Nat) :
    applyScript a b ((.swap, i, j) :: rest) pa =
      (a.drop pa).take (i - pa) ++ a.getD (i + 1) [] :: a.getD i [] :: applyScript a b rest (i + 2) := rfl

theorem applyScript_lower (a b : List (List Nat)) (k : EKind) (i j : Nat) (rest : List (EKind × Nat × Nat))
    (lo : Nat) :
    applyScript a b ((k, i, j) :: rest) lo =
      (a.drop lo).take (i - lo) ++ applyScript a b ((k, i, j) :: rest) i := by
  cases k with
  | insert => rw [applyScript_insert, applyScript_insert, Nat.sub_self, List.take_zero, List.nil_append]
  | delete => rw [applyScript_delete, applyScript_delete, Nat.sub_self, List.take_zero, List.nil_append]
  | replace => rw [applyScript_replace, applyScript_replace, Nat.sub_self, List.take_zero, List.nil_append]
  | swap => rw [applyScript_swap, applyScript_swap, Nat.sub_self, List.take_zero, List.nil_append]

theorem applyScript_insert_at (a b : List (List Nat)) (i j : Nat) (rest : List (EKind × Nat × Nat)) (pa : Nat)
    (h : i ≤ pa) : applyScript a b ((.insert, i, j) :: rest) pa = b.getD j [] :: applyScript a b rest i := by
  rw [applyScript_insert, Nat.sub_eq_zero_of_le h, List.take_zero, List.nil_append]

theorem applyScript_delete_at (a b : List (List Nat)) (i j : Nat) (rest : List (EKind × Nat × Nat)) (pa : Nat)
    (h : i ≤ pa) : applyScript a b ((.delete, i, j) :: rest) pa = applyScript a b rest (i + 1) := by
  rw [applyScript_delete, Nat.sub_eq_zero_of_le h, List.take_zero, List.nil_append]

theorem applyScript_replace_at (a b : List (List Nat)) (i j : Nat) (rest : List (EKind × Nat × Nat)) (pa : Nat)
    (h : i ≤ pa) : applyScript a b ((.replace, i, j) :: rest) pa = b.getD j [] :: applyScript a b rest (i + 1) := by
  rw [applyScript_replace, Nat.sub_eq_zero_of_le h, List.take_zero, List.nil_append]

theorem applyScript_swap_at (a b : List (List Nat)) (i j : Nat) (rest : List (EKind × Nat × Nat)) (pa : Nat)
    (h : i ≤ pa) :
    applyScript a b ((.swap, i, j) :: rest) pa = a.getD (i + 1) [] :: a.getD i [] :: applyScript a b rest (i + 2) := by
  rw [applyScript_swap, Nat.sub_eq_zero_of_le h, List.take_zero, List.nil_append]

theorem applyScript_step (a b : List (List Nat)) (rest : List (EKind × Nat × Nat)) (pa : Nat)
    (h : pa < a.length) (hr : ∀ p ∈ rest, pa < p.2.1) :
    applyScript a b rest pa = a.getD pa [] :: applyScript a b rest (pa + 1) := by
  cases rest with
  | nil => rw [applyScript_nil, applyScript_nil, drop_eq_getD_cons a pa [] h]
  | cons op rest =>
    obtain ⟨k, i, j⟩ := op
    have hi : pa < i := hr (k, i, j) (List.mem_cons_self ..)
    rw [applyScript_lower a b k i j rest pa, applyScript_lower a b k i j rest (pa + 1), drop_eq_getD_cons a pa [] h,
      show i - pa = (i - (pa + 1)) + 1 by omega, List.take_succ_cons, List.cons_append]

/-- what the backtrace may hold in its accumulator on arriving at cell `(i, j)`: a script from there to the last cell -/
inductive Trace (fl : EFlags) (a b : List (List Nat)) : Nat → Nat → List (EKind × Nat × Nat) → Prop
  | last : Trace fl a b a.length b.length []
  | keep {i j l} : Trace fl a b (i+1) (j+1) l → i < a.length → j < b.length → a.getD i [] = b.getD j [] →
      Trace fl a b i j l
  | ins {i j l} : Trace fl a b i (j+1) l → j < b.length → Trace fl a b i j ((.insert, i, j) :: l)
  | del {i j l} : Trace fl a b (i+1) j l → i < a.length → Trace fl a b i j ((.delete, i, j) :: l)
  | rep {i j l} : Trace fl a b (i+1) (j+1) l → i < a.length → j < b.length →
      canReplace fl (a.getD i []) (b.getD j []) = true → Trace fl a b i j ((.replace, i, j) :: l)
  | swp {i j l} : Trace fl a b (i+2) (j+2) l → fl.swap = true → i + 1 < a.length → j + 1 < b.length →
      a.getD (i+1) [] = b.getD j [] → a.getD i [] = b.getD (j+1) [] →
      canReplace fl (a.getD i []) (a.getD (i+1) []) = true → Trace fl a b i j ((.swap, i, j) :: l)

theorem Trace.le {fl a b i j l} (h : Trace fl a b i j l) : i ≤ a.length ∧ j ≤ b.length := by
  induction h with
  | last => exact ⟨Nat.le_refl _, Nat.le_refl _⟩
  | keep _ hi hj _ _ => exact ⟨Nat.le_of_lt hi, Nat.le_of_lt hj⟩
  | ins _ hj ih => exact ⟨ih.1, Nat.le_of_lt hj⟩
  | del _ hi ih => exact ⟨Nat.le_of_lt hi, ih.2⟩
  | rep _ hi hj _ _ => exact ⟨Nat.le_of_lt hi, Nat.le_of_lt hj⟩
  | swp _ _ hi hj _ _ _ _ => exact ⟨Nat.le_of_succ_le (Nat.le_of_lt hi), Nat.le_of_succ_le (Nat.le_of_lt hj)⟩

/-- no operation lies before the cell the script starts from -/
theorem Trace.bound {fl a b i j l} (h : Trace fl a b i j l) :
    ∀ i' j', i' ≤ i → j' ≤ j → ∀ p ∈ l, i' ≤ p.2.1 ∧ j' ≤ p.2.2 := by
  induction h with
  | last => exact fun _ _ _ _ _ hp => absurd hp List.not_mem_nil
  | keep _ _ _ _ ih => exact fun i' j' hi hj => ih i' j' (Nat.le_succ_of_le hi) (Nat.le_succ_of_le hj)
  | ins _ _ ih => exact fun i' j' hi hj => List.forall_mem_cons.mpr ⟨⟨hi, hj⟩, ih i' j' hi (Nat.le_succ_of_le hj)⟩
  | del _ _ ih => exact fun i' j' hi hj => List.forall_mem_cons.mpr ⟨⟨hi, hj⟩, ih i' j' (Nat.le_succ_of_le hi) hj⟩
  | rep _ _ _ _ ih =>
    exact fun i' j' hi hj => List.forall_mem_cons.mpr ⟨⟨hi, hj⟩, ih i' j' (Nat.le_succ_of_le hi) (Nat.le_succ_of_le hj)⟩
  | swp _ _ _ _ _ _ _ ih =>
    exact fun i' j' hi hj => List.forall_mem_cons.mpr
      ⟨⟨hi, hj⟩, ih i' j' (Nat.le_trans hi (Nat.le_add_right _ 2)) (Nat.le_trans hj (Nat.le_add_right _ 2))⟩

theorem Trace.sorted {fl a b i j l} (h : Trace fl a b i j l) :
    l.Pairwise (fun p q => p.2.1 ≤ q.2.1 ∧ p.2.2 ≤ q.2.2) := by
  induction h with
  | last => exact .nil
  | keep _ _ _ _ ih => exact ih
  | ins ht _ ih => exact List.pairwise_cons.mpr ⟨ht.bound _ _ (Nat.le_refl _) (Nat.le_succ _), ih⟩
  | del ht _ ih => exact List.pairwise_cons.mpr ⟨ht.bound _ _ (Nat.le_succ _) (Nat.le_refl _), ih⟩
  | rep ht _ _ _ ih => exact List.pairwise_cons.mpr ⟨ht.bound _ _ (Nat.le_succ _) (Nat.le_succ _), ih⟩
  | swp ht _ _ _ _ _ _ ih => exact List.pairwise_cons.mpr ⟨ht.bound _ _ (Nat.le_add_right _ 2) (Nat.le_add_right _ 2), ih⟩

theorem Trace.sem {fl a b i j l} (h : Trace fl a b i j l) : applyScript a b l i = b.drop j := by
  induction h with
  | last => rw [applyScript_nil, List.drop_length, List.drop_length]
  | @keep i j l ht hi hj he ih =>
    rw [applyScript_step a b l i hi (fun p hp => (ht.bound _ _ (Nat.le_refl _) (Nat.le_refl _) p hp).1), ih, he, ← drop_eq_getD_cons b j [] hj]
  | @ins i j l _ hj ih => rw [applyScript_insert_at a b i j l i (Nat.le_refl i), ih, ← drop_eq_getD_cons b j [] hj]
  | @del i j l _ _ ih => rw [applyScript_delete_at a b i j l i (Nat.le_refl i), ih]
  | @rep i j l _ _ hj _ ih => rw [applyScript_replace_at a b i j l i (Nat.le_refl i), ih, ← drop_eq_getD_cons b j [] hj]
  | @swp i j l _ _ _ hj he1 he2 _ ih =>
    rw [applyScript_swap_at a b i j l i (Nat.le_refl i), ih, he1, he2, ← drop_eq_getD_cons b (j + 1) [] hj,
      ← drop_eq_getD_cons b j [] (Nat.lt_of_succ_lt hj)]

theorem Trace.opOk {fl a b i j l} (h : Trace fl a b i j l) : ∀ p ∈ l, opOk fl a b p = true := by
  induction h with
  | last => exact fun _ hp => absurd hp List.not_mem_nil
  | keep _ _ _ _ ih => exact ih
  | ins ht hj ih =>
    exact List.forall_mem_cons.mpr ⟨by simp only [Tu.opOk, hj, ht.le.1, decide_true, Bool.and_self], ih⟩
  | del _ hi ih => exact List.forall_mem_cons.mpr ⟨by simp only [Tu.opOk, hi, decide_true], ih⟩
  | rep _ hi hj hr ih => exact List.forall_mem_cons.mpr ⟨by simp only [Tu.opOk, hi, hj, hr, decide_true, Bool.and_self], ih⟩
  | swp _ hs hi _ _ _ hr ih =>
    exact List.forall_mem_cons.mpr ⟨by simp only [Tu.opOk, hs, hi, hr, decide_true, Bool.and_self], ih⟩

/-- on the filled table the backtrace never reaches its panic branch; it extends a script from cell `(i, j)` to a
script from cell `(0, 0)` by as many operations as the cell's value -/
theorem backtrace_trace (fl : EFlags) (a b : List (List Nat)) :
    ∀ (fuel i j : Nat) (acc : List (EKind × Nat × Nat)), i + j < fuel → Trace fl a b i j acc →
      ∃ ops, backtrace (fillTable fl a b) (b.length + 1) fuel i j acc = some ops ∧ Trace fl a b 0 0 ops ∧
        ops.length = refCell fl a b i j + acc.length := by
  intro fuel
  induction fuel with
  | zero => intro i j acc h; omega
  | succ fuel ih =>
    intro i j acc hf ht
    obtain ⟨hi, hj⟩ := ht.le
    rw [backtrace]
    by_cases h0 : i = 0 ∧ j = 0
    · rw [if_pos h0]
      obtain ⟨rfl, rfl⟩ := h0
      exact ⟨acc, rfl, ht, by rw [refCell_zero_left fl a b 0 hj, Nat.zero_add]⟩
    · rw [if_neg h0]
      obtain ⟨_, hop⟩ := fillTable_ok fl a b i j hi hj
      -- the recorded operation names the cell to go on from, one operation cheaper (or as cheap, for `keep`)
      generalize (tblGet (fillTable fl a b) (b.length + 1) i j).2 = op at hop ⊢
      cases hop with
      | zero => exact absurd ⟨rfl, rfl⟩ h0
      | @keep i' j' he hl =>
        dsimp only
        rw [if_pos ⟨Nat.le_add_left 1 i', Nat.le_add_left 1 j'⟩, hl]
        exact ih i' j' acc (by omega) (ht.keep hi hj he)
      | @insert _ j' hl =>
        dsimp only
        rw [if_pos (Nat.le_add_left 1 j'), hl, Nat.add_right_comm]
        exact ih i j' _ (by omega) (ht.ins hj)
      | @delete i' _ hl =>
        dsimp only
        rw [if_pos (Nat.le_add_left 1 i'), hl, Nat.add_right_comm]
        exact ih i' j _ (by omega) (ht.del hi)
      | @replace i' j' hr hl =>
        dsimp only
        rw [if_pos ⟨Nat.le_add_left 1 i', Nat.le_add_left 1 j'⟩, hl, Nat.add_right_comm]
        exact ih i' j' _ (by omega) (ht.rep hi hj hr)
      | @swap i' j' he1 he2 hs hr hl =>
        dsimp only
        rw [if_pos ⟨Nat.le_add_left 2 i', Nat.le_add_left 2 j'⟩, hl, Nat.add_right_comm]
        exact ih i' j' _ (by omega) (ht.swp hs hi hj he1 he2 (by rw [canReplace_comm]; exact hr))

/-- `operations()` returns a script through the whole table with `distance` operations -/
theorem editOperations_spec (fl : EFlags) (a b : List (List Nat)) :
    ∃ ops, editOperations fl a b = some ops ∧ Trace fl a b 0 0 ops ∧ ops.length = editDistance fl a b := by
  obtain ⟨ops, hb, ht, hl⟩ := backtrace_trace fl a b (a.length + b.length + 1) a.length b.length []
    (Nat.lt_succ_self _) .last
  exact ⟨ops, hb, ht, by rw [hl, editDistance_eq_refCell]; rfl⟩

theorem editOperations_isSome (fl : EFlags) (a b : List (List Nat)) : ∃ ops, editOperations fl a b = some ops :=
  (editOperations_spec fl a b).imp fun _ h => h.1

/-- an optimal script for the prefixes of length `i` and `j`, described by what replaying it does -/
structure ScriptOK (fl : EFlags) (a b : List (List Nat)) (i j : Nat) (l : List (EKind × Nat × Nat)) : Prop where
  len : l.length = refCell fl a b i j
  bound : ∀ p ∈ l, p.2.1 ≤ i ∧ p.2.2 ≤ j
  sorted : l.Pairwise (fun p q => p.2.1 ≤ q.2.1 ∧ p.2.2 ≤ q.2.2)
  sem : ∀ rest : List (EKind × Nat × Nat), (∀ p ∈ rest, i ≤ p.2.1) →
    applyScript a b (l ++ rest) 0 = b.take j ++ applyScript a b rest i

end Tu

/-
  Helper lemmas for C17 (token groups, sparse COO matrix, padding): sums of
  `flatMap`s, the entries of `cooItem`, sums of pair-rationals `Q` up to value equality.
-/
import TuModel.Model.Groups
import TuModel.Lemmas.ListL
namespace Tu.GroupsL
open Tu

theorem sum_flatten (L : List (List Nat)) : L.flatten.sum = (L.map List.sum).sum := by
  induction L with
  | nil => rfl
  | cons l L ih => rw [List.flatten_cons, List.sum_append, ih, List.map_cons, List.sum_cons]

theorem sum_flatMap_map {α β : Type} (f : α → List β) (g : β → Nat) (l : List α) :
    ((l.flatMap f).map g).sum = (l.map (fun a => ((f a).map g).sum)).sum := by
  rw [List.map_flatMap, List.flatMap_def, sum_flatten, List.map_map]
  rfl

theorem groupWeights_length (mean : Bool) (g : TGroup) : (groupWeights mean g).length = g.len := by
  cases g with
  | full n => simp [groupWeights, TGroup.len]
  | nested gs =>
    simp only [groupWeights, TGroup.len]
    induction gs with
    | nil => rfl
    | cons x xs ih => simp [List.flatMap_cons] at ih ⊢

theorem regularGroups_sum (cp : Bool) (cl : List (List Nat)) :
    ((regularGroups cp cl).map TGroup.len).sum = (cl.flatten.map utf8Len).sum := by
  rw [← List.flatMap_id, sum_flatMap_map]
  unfold regularGroups
  cases cp <;> simp [List.map_map, Function.comp_def, TGroup.len]

theorem regularGroups_length (cp : Bool) (cl : List (List Nat)) :
    (regularGroups cp cl).length = cl.length := by
  unfold regularGroups
  cases cp <;> simp

theorem cooItem_length (b : Nat) (mean : Bool) : ∀ (gs : List TGroup) (gi off : Nat),
    (cooItem b mean gs gi off).length = (gs.map TGroup.len).sum := by
  intro gs
  induction gs with
  | nil => intro gi off; rfl
  | cons g gs ih =>
    intro gi off
    simp only [cooItem, List.length_append, List.length_map, List.length_zip, List.length_range,
      ih, List.map_cons, List.sum_cons]
    cases mean <;> simp [groupWeights_length]

theorem cooItem_mem (b : Nat) (mean : Bool) : ∀ (gs : List TGroup) (gi off : Nat) (e : Nat × Nat × Nat × Q),
    e ∈ cooItem b mean gs gi off →
      e.1 = b ∧ gi ≤ e.2.1 ∧ e.2.1 < gi + gs.length ∧ off ≤ e.2.2.1 ∧ e.2.2.1 < off + (gs.map TGroup.len).sum := by
  intro gs
  induction gs with
  | nil => intro gi off e h; simp [cooItem] at h
  | cons g gs ih =>
    intro gi off e h
    simp only [cooItem, List.mem_append, List.mem_map] at h
    rcases h with ⟨⟨k, v⟩, hkv, rfl⟩ | h
    · have hk := (List.of_mem_zip hkv).1
      simp only [List.mem_range] at hk
      simp only [List.length_cons, List.map_cons, List.sum_cons]
      refine ⟨trivial, Nat.le_refl _, by omega, by omega, by omega⟩
    · obtain ⟨h1, h2, h3, h4, h5⟩ := ih _ _ e h
      simp only [List.length_cons, List.map_cons, List.sum_cons]
      refine ⟨h1, by omega, by omega, by omega, by omega⟩

/-- the entry list from which `sparseCoo` builds its columns -/
def cooEntries (groupings : List (List TGroup × Bool)) : List (Nat × Nat × Nat × Q) :=
  (groupings.zipIdx).flatMap (fun ((gs, mean), b) => cooItem b mean gs 0 0)

theorem cooEntries_length (groupings : List (List TGroup × Bool)) :
    (cooEntries groupings).length = (groupings.map (fun g => (g.1.map TGroup.len).sum)).sum := by
  unfold cooEntries
  rw [List.length_flatMap]
  have : ∀ x : (List TGroup × Bool) × Nat,
      (match x with | ((gs, mean), b) => cooItem b mean gs 0 0).length = (x.1.1.map TGroup.len).sum := by
    intro ⟨⟨gs, mean⟩, b⟩; exact cooItem_length b mean gs 0 0
  simp only [this]
  exact congrArg List.sum
    ((List.map_map (f := Prod.fst) (g := fun g : List TGroup × Bool => (g.1.map TGroup.len).sum)).symm.trans
      (congrArg _ (List.zipIdx_map_fst 0 groupings)))

theorem cooEntries_mem (groupings : List (List TGroup × Bool)) (e : Nat × Nat × Nat × Q)
    (he : e ∈ cooEntries groupings) :
    e.1 < groupings.length ∧ e.2.1 < (groupings.map (fun g => g.1.length)).foldl max 0 ∧
      e.2.2.1 < (groupings.map (fun g => (g.1.map TGroup.len).sum)).foldl max 0 := by
  unfold cooEntries at he
  rw [List.mem_flatMap] at he
  obtain ⟨⟨⟨gs, mean⟩, b⟩, hx, he⟩ := he
  obtain ⟨h1, h2, h3, h4, h5⟩ := cooItem_mem b mean gs 0 0 e he
  have hx' := List.mem_zipIdx hx
  have hmem : (gs, mean) ∈ groupings := by rw [hx'.2.2]; exact List.getElem_mem _
  have hA : gs.length ≤ (groupings.map (fun g => g.1.length)).foldl max 0 :=
    (foldl_max_le_iff.1 (Nat.le_refl _)).2 _ (List.mem_map.2 ⟨(gs, mean), hmem, rfl⟩)
  have hB : (gs.map TGroup.len).sum ≤ (groupings.map (fun g => (g.1.map TGroup.len).sum)).foldl max 0 :=
    (foldl_max_le_iff.1 (Nat.le_refl _)).2 _ (List.mem_map.2 ⟨(gs, mean), hmem, rfl⟩)
  refine ⟨by omega, by omega, by omega⟩

/-- the two guards of `sparseCoo` together say that `lengths` lists the items' token counts -/
theorem sparseCoo_some {groupings : List (List TGroup × Bool)} {lengths : List Nat} {c : Coo}
    (h : sparseCoo groupings lengths = some c) :
    groupings.map (fun g => (g.1.map TGroup.len).sum) = lengths ∧
    c = { rowBatch := (cooEntries groupings).map (·.1), rowGroup := (cooEntries groupings).map (·.2.1),
          rowToken := (cooEntries groupings).map (·.2.2.1), values := (cooEntries groupings).map (·.2.2.2),
          size := [groupings.length, (groupings.map (fun g => g.1.length)).foldl max 0, lengths.foldl max 0],
          groupLengths := groupings.map (fun g => g.1.length) } := by
  unfold sparseCoo at h
  split at h
  · cases h
  next hl =>
    split at h
    · cases h
    next hs =>
      refine ⟨?_, (Option.some.inj h).symm⟩
      have hl : groupings.length = lengths.length := by simpa using hl
      have hs : (groupings.zip lengths).map (fun p => (p.1.1.map TGroup.len).sum) =
          (groupings.zip lengths).map Prod.snd :=
        List.map_congr_left fun p hp => Decidable.of_not_not fun hne =>
          hs (List.any_eq_true.2 ⟨p, hp, by simpa using hne⟩)
      rw [List.map_snd_zip (Nat.le_of_eq hl.symm)] at hs
      rw [← List.map_fst_zip (l₂ := lengths) (Nat.le_of_eq hl), List.map_map]
      exact hs

/-- `F` adds the value `a/d` to every accumulator (fractions compared by cross-multiplication) -/
def Adds (F : Q → Q) (a d : Nat) : Prop :=
  ∀ acc : Q, 0 < acc.den →
    (F acc).num * (acc.den * d) = (acc.num * d + a * acc.den) * (F acc).den ∧ 0 < (F acc).den

theorem Adds.add (a : Nat) {d : Nat} (hd : 0 < d) : Adds (fun q => Q.add q ⟨a, d⟩) a d :=
  fun _ h => ⟨rfl, Nat.mul_pos h hd⟩

theorem Adds.comp {F G : Q → Q} {a b d : Nat} (hd : 0 < d) (hF : Adds F a d) (hG : Adds G b d) :
    Adds (fun q => G (F q)) (a + b) d := by
  intro acc h
  obtain ⟨e1, p1⟩ := hF acc h
  obtain ⟨e2, p2⟩ := hG (F acc) p1
  refine ⟨?_, p2⟩
  show (G (F acc)).num * (acc.den * d) = (acc.num * d + (a + b) * acc.den) * (G (F acc)).den
  generalize G (F acc) = r at e2
  generalize F acc = s at e1 e2 p1
  apply Nat.eq_of_mul_eq_mul_left (Nat.mul_pos p1 hd)
  have h1 : s.num * (acc.den * d) * (r.den * d) = (acc.num * d + a * acc.den) * s.den * (r.den * d) := by rw [e1]
  have h2 : r.num * (s.den * d) * (acc.den * d) = (s.num * d + b * s.den) * r.den * (acc.den * d) := by rw [e2]
  grind

/-- `n·a / n·d` is `a / d` -/
theorem Adds.cancel {F : Q → Q} {a d n : Nat} (hn : 0 < n) (h : Adds F (n * a) (n * d)) : Adds F a d := by
  intro acc hacc
  obtain ⟨e, p⟩ := h acc hacc
  refine ⟨Nat.eq_of_mul_eq_mul_left hn ?_, p⟩
  generalize F acc = r at e
  grind

theorem Adds.zero (d : Nat) : Adds (fun q => q) 0 d :=
  fun acc h => ⟨by rw [Nat.zero_mul, Nat.add_zero, Nat.mul_right_comm, Nat.mul_assoc], h⟩

theorem Adds.replicate (a : Nat) {d : Nat} (hd : 0 < d) : ∀ k : Nat,
    Adds (fun q => (List.replicate k (⟨a, d⟩ : Q)).foldl Q.add q) (k * a) d
  | 0 => by simpa only [Nat.zero_mul, List.replicate_zero, List.foldl_nil] using Adds.zero d
  | k + 1 => by
    have := Adds.comp hd (Adds.add a hd) (Adds.replicate a hd k)
    simpa only [List.replicate_succ, List.foldl_cons, Nat.add_mul, Nat.one_mul, Nat.add_comm] using this

theorem Adds.flatMap {α : Type} (f : α → List Q) {a d : Nat} (hd : 0 < d) : ∀ (l : List α),
    (∀ x ∈ l, Adds (fun q => (f x).foldl Q.add q) a d) →
    Adds (fun q => (l.flatMap f).foldl Q.add q) (l.length * a) d
  | [], _ => by simpa only [List.length_nil, Nat.zero_mul, List.flatMap_nil, List.foldl_nil] using Adds.zero d
  | x :: xs, h => by
    have := Adds.comp hd (h x List.mem_cons_self)
      (Adds.flatMap f hd xs fun y hy => h y (List.mem_cons_of_mem _ hy))
    simpa only [List.flatMap_cons, List.foldl_append, List.length_cons, Nat.add_mul, Nat.one_mul,
      Nat.add_comm] using this

theorem Adds.sum_one {F : Q → Q} {n : Nat} (hn : 0 < n) (h : Adds F n n) :
    (F Q.zero).num * Q.one.den = Q.one.num * (F Q.zero).den := by
  obtain ⟨e, _⟩ := h Q.zero Nat.one_pos
  apply Nat.eq_of_mul_eq_mul_left hn
  simpa [Q.zero, Q.one, Nat.mul_comm] using e

end Tu.GroupsL

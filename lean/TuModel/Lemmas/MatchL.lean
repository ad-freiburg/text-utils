import TuModel.Model.Match
import TuModel.Lemmas.FlatTable
namespace Tu

theorem maxByFst_mem {l : List (Nat × MOp)} (h : l ≠ []) : maxByFst l ∈ l := by
  cases l with
  | nil => exact absurd rfl h
  | cons x xs => exact foldl_select_mem (fun m y => m.1 ≤ y.1) xs x

theorem maxByFst_ge {l : List (Nat × MOp)} {z : Nat × MOp} (hz : z ∈ l) : z.1 ≤ (maxByFst l).1 := by
  cases l with
  | nil => exact absurd hz List.not_mem_nil
  | cons x xs =>
    exact foldl_select_le (fun m y => m.1 ≤ y.1) (fun u v => v.1 ≤ u.1) (fun _ => Nat.le_refl _)
      (fun _ _ _ h1 h2 => Nat.le_trans h2 h1) (fun _ _ h => h) (fun _ _ h => Nat.le_of_lt (Nat.lt_of_not_le h)) xs x z hz

/-- the longest-common-subsequence recurrence on reversed prefixes -/
def lcsR : List (List Nat) → List (List Nat) → Nat
  | [], _ => 0
  | _ :: _, [] => 0
  | x :: as, y :: bs =>
    (maxByFst (mCandidates (x == y) (lcsR as (y :: bs)) (lcsR (x :: as) bs) (lcsR as bs))).1
termination_by as bs => as.length + bs.length
decreasing_by all_goals simp only [List.length_cons] <;> omega

theorem lcsR_nil_left (bs : List (List Nat)) : lcsR [] bs = 0 := by rw [lcsR]
theorem lcsR_nil_right (as : List (List Nat)) : lcsR as [] = 0 := by
  cases as with
  | nil => rw [lcsR]
  | cons x as => rw [lcsR]
theorem lcsR_cons (x y : List Nat) (as bs : List (List Nat)) :
    lcsR (x :: as) (y :: bs) =
      (maxByFst (mCandidates (x == y) (lcsR as (y :: bs)) (lcsR (x :: as) bs) (lcsR as bs))).1 := by
  rw [lcsR]

theorem mem_mCandidates {eq : Bool} {dU dL dD : Nat} {z : Nat × MOp} :
    z ∈ mCandidates eq dU dL dD ↔ z = (dU, .delete) ∨ z = (dL, .insert) ∨
      (eq = true ∧ z = (dD + 1, .matched)) ∨ (eq = false ∧ z = (dD, .unmatched)) := by
  unfold mCandidates
  cases eq <;> simp

theorem lcsR_cons_ge (x y : List Nat) (as bs : List (List Nat)) :
    lcsR as (y :: bs) ≤ lcsR (x :: as) (y :: bs) ∧ lcsR (x :: as) bs ≤ lcsR (x :: as) (y :: bs) ∧
    (x = y → lcsR as bs + 1 ≤ lcsR (x :: as) (y :: bs)) := by
  rw [lcsR_cons]
  exact ⟨maxByFst_ge (mem_mCandidates.mpr (.inl rfl)), maxByFst_ge (mem_mCandidates.mpr (.inr (.inl rfl))),
    fun h => maxByFst_ge (mem_mCandidates.mpr (.inr (.inr (.inl ⟨beq_iff_eq.mpr h, rfl⟩))))⟩

theorem lcsR_upper {as bs m : List (List Nat)} (ha : List.Sublist m as) (hb : List.Sublist m bs) :
    m.length ≤ lcsR as bs := by
  induction as, bs using lcsR.induct generalizing m with
  | case1 bs => rw [List.sublist_nil.mp ha]; exact Nat.zero_le _
  | case2 x as => rw [List.sublist_nil.mp hb]; exact Nat.zero_le _
  | case3 x as y bs ih1 ih2 ih3 =>
    obtain ⟨g1, g2, g3⟩ := lcsR_cons_ge x y as bs
    -- is the first word of `m` matched with `x`, with `y`, or with both?
    cases ha with
    | cons _ ha' => exact Nat.le_trans (ih1 ha' hb) g1
    | cons_cons _ ha' =>
      cases hb with
      | cons _ hb' => exact Nat.le_trans (ih2 (ha'.cons_cons _) hb') g2
      | cons_cons _ hb' =>
        exact Nat.le_trans (Nat.succ_le_succ (ih3 ha' hb')) (g3 rfl)

/-- with `lcsR_upper`: the recurrence is the length of a longest common subsequence -/
theorem lcsR_attained (as bs : List (List Nat)) :
    ∃ m, List.Sublist m as ∧ List.Sublist m bs ∧ m.length = lcsR as bs := by
  induction as, bs using lcsR.induct with
  | case1 bs => exact ⟨[], List.nil_sublist _, List.nil_sublist _, (lcsR_nil_left _).symm⟩
  | case2 x as => exact ⟨[], List.nil_sublist _, List.nil_sublist _, (lcsR_nil_right _).symm⟩
  | case3 x as y bs ih1 ih2 ih3 =>
    obtain ⟨m1, a1, b1, l1⟩ := ih1
    obtain ⟨m2, a2, b2, l2⟩ := ih2
    obtain ⟨m3, a3, b3, l3⟩ := ih3
    rw [lcsR_cons]
    rcases mem_mCandidates.mp (maxByFst_mem (List.cons_ne_nil _ _)) with h | h | ⟨he, h⟩ | ⟨_, h⟩
    · exact ⟨m1, a1.cons x, b1, by rw [h]; exact l1⟩
    · exact ⟨m2, a2, b2.cons y, by rw [h]; exact l2⟩
    · cases beq_iff_eq.mp he
      exact ⟨x :: m3, a3.cons_cons x, b3.cons_cons x, by rw [h, List.length_cons, l3]⟩
    · exact ⟨m3, a3.cons x, b3.cons y, by rw [h]; exact l3⟩

theorem lcs_upper : ∀ (k : Nat) (as bs m : List (List Nat)), as.length + bs.length = k →
    List.Sublist m as → List.Sublist m bs → m.length ≤ lcsR as bs :=
  fun _ _ _ _ _ => lcsR_upper

theorem lcs_attained : ∀ (k : Nat) (as bs : List (List Nat)), as.length + bs.length = k →
    ∃ m, List.Sublist m as ∧ List.Sublist m bs ∧ m.length = lcsR as bs :=
  fun _ as bs _ => lcsR_attained as bs

end Tu

/-
  C20 — frequency dictionary (`Dictionary::create`), closest-entry queries (`get_closest`), the dictionary file
  (`Dictionary::save` / `load`).
  Model: `Tu.countOf`, `Tu.countAll`, `Tu.topK`, `Tu.dictCreate`, `Tu.dictAccept`, `Tu.closestSpec` (Model/Dict.lean);
  `Tu.dictSave`, `Tu.dictLoad`, `Tu.saveAccepts` (Model/DictFile.lean).
-/
import TuModel.Lemmas.DictL
import TuModel.Lemmas.DictFileL
namespace Tu.C20
open Tu

/-- counting is independent of the order in which lines / per-line count maps are merged (worker interleaving) -/
theorem countOf_perm (a b : List Tok) (h : a.Perm b) (t : Tok) : countOf a t = countOf b t := by
  rw [DictL.countOf_eq_count, DictL.countOf_eq_count, h.count_eq]

/-- `countAll` is exactly the frequency table: distinct keys, each with its number of occurrences -/
theorem countAll_spec (toks : List Tok) (t : Tok) (n : Nat) :
    (t, n) ∈ countAll toks ↔ t ∈ toks ∧ n = countOf toks t := by
  simp only [countAll, List.mem_map, Prod.mk.injEq, List.mem_eraseDups]
  exact ⟨fun ⟨_, ht, e, hn⟩ => e ▸ ⟨ht, hn.symm⟩, fun ⟨ht, hn⟩ => ⟨t, ht, rfl, hn.symm⟩⟩

theorem countAll_keys_nodup (toks : List Tok) : ((countAll toks).map (·.1)).Nodup :=
  DictL.countAll_keys toks ▸ nodup_eraseDups toks

theorem countAll_perm_mem (a b : List Tok) (h : a.Perm b) (e : Tok × Nat) :
    e ∈ countAll a ↔ e ∈ countAll b := by
  rw [countAll_spec, countAll_spec, h.mem_iff, countOf_perm a b h]

/-- the kept entries are entries … -/
theorem topK_sub (entries : List (Tok × Nat)) (k : Option Nat) : ∀ e ∈ topK entries k, e ∈ entries := by
  intro e he
  cases k with
  | none => exact he
  | some k => exact (List.mem_filter.1 he).1

/-- … an absent `max_size` keeps everything … -/
theorem topK_none (entries : List (Tok × Nat)) : topK entries none = entries := rfl

/-- … no omitted entry is more frequent than a kept one … -/
theorem topK_dominates (entries : List (Tok × Nat)) (k : Nat) (x y : Tok × Nat)
    (hx : x ∈ topK entries (some k)) (hy : y ∈ entries) (hny : y ∉ topK entries (some k)) : y.2 ≤ x.2 := by
  simp only [topK, List.mem_filter, decide_eq_true_eq] at hx hny
  refine Nat.le_of_not_lt fun hlt => hny ⟨hy, Nat.lt_trans (DictL.rankOf_lt_of_lt ?_ hy) hx.2⟩
  exact DictL.entryLt_iff.2 (List.cons_lt_cons_iff.2 (Or.inl hlt))

/-- … and exactly `min k n` entries are kept (keys distinct): the ranks below `k` among `0 .. n-1` -/
theorem topK_length (entries : List (Tok × Nat)) (k : Nat) (hnd : (entries.map (·.1)).Nodup) :
    (topK entries (some k)).length = min k entries.length := by
  rw [topK, ← List.countP_eq_length_filter, ← DictL.countP_lt_range,
    ← (DictL.rank_perm_range entries hnd).countP_eq, List.countP_map]
  rfl

/-- `freq_sum` is the total of the kept frequencies (by construction), and the created dictionary only depends
on the multiset of tokens of the used lines -/
theorem dictCreate_freqSum (lines : List (List Tok)) (ms mq : Option Nat) :
    (dictCreate lines ms mq).freqSum = ((dictCreate lines ms mq).entries.map (·.2)).sum := rfl

theorem dictCreate_entries_mem (lines : List (List Tok)) (mq : Option Nat) (e : Tok × Nat) :
    e ∈ (dictCreate lines none mq).entries ↔
      e.1 ∈ (match mq with | none => lines | some m => lines.take m).flatten ∧
      e.2 = countOf (match mq with | none => lines | some m => lines.take m).flatten e.1 :=
  countAll_spec _ e.1 e.2

/-- every index returned by `closestSpec` is at minimal distance, and has the maximal frequency among the
entries at minimal distance -/
theorem closestSpec_ok (q : List (List Nat)) (es : List (List (List Nat) × Nat)) (norm : Bool) (idxs : List Nat) (f : Nat)
    (h : closestSpec q es norm = some (idxs, f)) :
    ∀ i ∈ idxs, ∃ e, es[i]? = some e ∧ e.2 = f ∧
      ∀ e' ∈ es,
        let d := fun (x : List (List Nat) × Nat) => (editDistance { swap := false, sid := false } q x.1, if norm then normDen q x.1 else 1)
        (d e).1 * (d e').2 ≤ (d e').1 * (d e).2 ∧
        ((d e').1 * (d e).2 ≤ (d e).1 * (d e').2 → e'.2 ≤ f) := by
  rw [DictL.closestSpec_eq] at h
  exact DictL.closestGen_ok _ (by
    intro e
    show 0 < (if norm then normDen q e.1 else 1)
    split
    · exact DictL.normDen_pos _ _
    · exact Nat.one_pos) es idxs f h

/-- `closestSpec` answers whenever the dictionary is non-empty, with at least one index -/
theorem closestSpec_isSome (q : List (List Nat)) (es : List (List (List Nat) × Nat)) (norm : Bool) (hne : es ≠ []) :
    (closestSpec q es norm).isSome = true := by
  cases es with
  | nil => exact absurd rfl hne
  | cons e0 es => rfl

/-! ### `Dictionary::save` / `Dictionary::load` (Model/DictFile.lean) -/

/-- decimal printing and parsing are inverse for every usize value -/
theorem parseUsize_decDigits (n : Nat) (h : n < 2 ^ 64) : parseUsize (decDigits n) = some n := by
  have := DictFileL.parseUsize_digits (DictFileL.decDigits_ne_nil n) (fun _ => DictFileL.mem_decDigits)
  rwa [DictFileL.digitsVal_decDigits, imp_iff_right h] at this

/-- one saved line parses back to its entry -/
theorem parseLine_saveLine (k : Key) (v : Nat) (hk : keyOk k = true) (hv : v < 2 ^ 64) :
    parseLine (k ++ [9] ++ decDigits v) = some (k, v) := by
  obtain ⟨-, hw, hd⟩ := DictFileL.saveLine_ends hk v
  rw [parseLine, trimCl_eq_self hw hd, List.append_assoc, List.singleton_append,
    DictFileL.splitTab_key_val (DictFileL.keyOk_iff.1 hk).2.1 fun h => Bool.noConfusion (DictFileL.mem_decDigits h)]
  simp only [parseUsize_decDigits v hv, Option.map_some]

/-- the saved file splits into exactly its lines -/
theorem loadPairs_dictSave (l : List (Key × Nat)) (hk : ∀ e ∈ l, keyOk e.1 = true) (hv : ∀ e ∈ l, e.2 < 2 ^ 64) :
    loadPairs (dictSave l) = some l := by
  have : fileLines (dictSave l) = l.map fun e => e.1 ++ [9] ++ decDigits e.2 :=
    DictFileL.fileLines_flatMap _ l fun e he =>
      have h := DictFileL.saveLine_ends (hk e he) e.2
      ⟨h.1, h.2.2⟩
  rw [loadPairs, this]
  exact mapM_map_some _ parseLine l (fun e he => parseLine_saveLine e.1 e.2 (hk e he) (hv e he))

/-- **save followed by load reproduces the dictionary**: for distinct, well-formed keys, whatever order
`save` wrote the entries in -/
theorem dictLoad_dictSave (l : List (Key × Nat)) (hk : ∀ e ∈ l, keyOk e.1 = true) (hv : ∀ e ∈ l, e.2 < 2 ^ 64)
    (hd : (l.map (·.1)).Nodup) :
    dictLoad (dictSave l) = some { entries := l, freqSum := (l.map (·.2)).sum } := by
  unfold dictLoad
  rw [loadPairs_dictSave l hk hv, Option.map_some, DictFileL.foldl_mapInsert l [] (by simpa using hd)]
  rfl

/-- the acceptance test used by the correspondence check is sound and complete for such dictionaries:
a file is accepted iff it is the save of some descending ordering of the entries -/
theorem saveAccepts_iff (entries : List (Key × Nat)) (file : List Nat)
    (hk : ∀ e ∈ entries, keyOk e.1 = true) (hv : ∀ e ∈ entries, e.2 < 2 ^ 64) (hd : (entries.map (·.1)).Nodup) :
    saveAccepts entries file = true ↔
      ∃ l, l.Perm entries ∧ descending l = true ∧ file = dictSave l := by
  constructor
  · intro h
    unfold saveAccepts at h
    split at h
    · cases h
    · rename_i kvs hload
      simp only [Bool.and_eq_true, beq_iff_eq, List.all_eq_true, List.contains_eq_mem, decide_eq_true_eq] at h
      obtain ⟨⟨⟨⟨hsave, hlen⟩, _⟩, hsub⟩, hdesc⟩ := h
      have hnd : entries.Nodup := List.Pairwise.of_map (·.1) (fun _ _ hab e => hab (e ▸ rfl)) hd
      exact ⟨kvs, (perm_of_nodup_subset entries kvs hnd hsub (Nat.le_of_eq hlen)).symm, hdesc, hsave.symm⟩
  · rintro ⟨l, hp, hdesc, rfl⟩
    unfold saveAccepts
    rw [loadPairs_dictSave l (fun e he => hk e (hp.mem_iff.1 he)) (fun e he => hv e (hp.mem_iff.1 he))]
    simp only [Bool.and_eq_true, beq_iff_eq, List.all_eq_true, List.contains_eq_mem, decide_eq_true_eq]
    exact ⟨⟨⟨⟨trivial, hp.length_eq⟩, fun e he => hp.mem_iff.1 he⟩, fun e he => hp.mem_iff.2 he⟩, hdesc⟩

/-- every key `load` can return is well-formed in this sense, so loaded dictionaries are in the domain of the
round trip (keys come from `parseLine`) -/
theorem parseLine_keyOk (line : List Nat) (k : Key) (v : Nat) (h : parseLine line = some (k, v)) (hl : 10 ∉ line) :
    keyOk k = true ∧ v < 2 ^ 64 := by
  obtain ⟨w, hsplit, hparse⟩ := DictFileL.parseLine_some h
  refine ⟨?_, DictFileL.parseUsize_some hparse⟩
  -- the key is the trimmed line up to its first tab, and the trimmed line starts with no white space
  have hk := DictFileL.head?_splitOn 9 (trimCl line)
  rw [← DictFileL.splitTab_eq, hsplit, List.head?_cons, Option.some.injEq] at hk
  cases ht : trimCl line with
  | nil => rw [ht] at hsplit; cases hsplit
  | cons a T =>
    have hw : isWsCp a = false := trimCl_head ht
    have ha9 : (a != 9) = true := bne_iff_ne.2 fun e => absurd (e ▸ hw : isWsCp 9 = false) (by decide)
    have hsub : ∀ c ∈ k, c ∈ line := fun c hc =>
      trimCl_mem line c (List.takeWhile_subset _ (hk ▸ hc))
    have h9 : 9 ∉ k := fun h9 => Bool.noConfusion (List.all_eq_true.1 List.all_takeWhile 9 (hk ▸ h9))
    rw [ht, List.takeWhile_cons_of_pos (p := (· != 9)) ha9] at hk
    rw [DictFileL.keyOk_iff, hk]
    exact ⟨List.cons_ne_nil _ _, hk ▸ h9, fun h10 => hl (hsub 10 (hk ▸ h10)), fun _ e => Option.some.inj e ▸ hw⟩

/-! ### non-vacuity -/

example : topK [([97], 3), ([98], 1), ([99], 3)] (some 2) = [([97], 3), ([99], 3)] := by decide +kernel
example : topK [([97], 3), ([98], 1), ([99], 3)] (some 1) = [([99], 3)] := by decide +kernel
example : topK [([97], 3), ([98], 1), ([99], 3)] (some 5) = [([97], 3), ([98], 1), ([99], 3)] := by decide +kernel
example : countAll [[97], [98], [97], [99], [97], [98]] = [([97], 3), ([98], 2), ([99], 1)] := by decide +kernel
example : (dictCreate [[[97], [98]], [[97]], [[99]]] (some 1) (some 2)).entries = [([97], 2)] := by decide +kernel
example : (dictCreate [[[97], [98]], [[97]], [[99]]] (some 1) (some 2)).freqSum = 2 := by decide +kernel
example : closestSpec [[97]] [([[98]], 2), ([[97], [98]], 5), ([[99]], 5)] false = some ([1, 2], 5) := by decide +kernel
/-- the key-distinctness hypothesis of `topK_length` is needed: duplicates share a rank -/
example : (topK [([97], 3), ([97], 3)] (some 1)).length = 2 := by decide +kernel

/-! ### non-vacuity of the save / load round trip -/

/-- "new york" (inner space), "中文" (non-ASCII), "a"; a frequency tie between the first two -/
private def exDict : List (Key × Nat) :=
  [([110, 101, 119, 32, 121, 111, 114, 107], 7), ([0x4e2d, 0x6587], 7), ([97], 120)]

example : (∀ e ∈ exDict, keyOk e.1 = true) ∧ (∀ e ∈ exDict, e.2 < 2 ^ 64) ∧ (exDict.map (·.1)).Nodup := by decide +kernel
example : dictSave [([97, 32, 98], 7), ([0x4e2d], 120)] = [97, 32, 98, 9, 55, 10, 0x4e2d, 9, 49, 50, 48, 10] := by decide +kernel
example : loadPairs (dictSave exDict) = some exDict := by decide +kernel
example : (dictLoad (dictSave exDict)).map (fun d => (d.entries, d.freqSum)) = some (exDict, 134) := by decide +kernel
/-- `save` may write the tie in either order, but not in ascending order of frequency -/
example : saveAccepts exDict (dictSave [exDict[2], exDict[0], exDict[1]]) = true := by decide +kernel
example : saveAccepts exDict (dictSave [exDict[2], exDict[1], exDict[0]]) = true := by decide +kernel
example : saveAccepts exDict (dictSave exDict) = false := by decide +kernel
example : saveAccepts exDict (dictSave [exDict[2], exDict[0]]) = false := by decide +kernel
/-- a `\r` inside or at the end of a key, and white space at the end of a key, survive the round trip -/
example : loadPairs (dictSave [([97, 13], 3), ([98, 32], 0)]) = some [([97, 13], 3), ([98, 32], 0)] := by decide +kernel
/-- the bounds of `parseUsize_decDigits` -/
example : parseUsize (decDigits 0) = some 0 := by decide +kernel
example : parseUsize (decDigits (2 ^ 64 - 1)) = some (2 ^ 64 - 1) := by decide +kernel
example : parseUsize (decDigits (2 ^ 64)) = none := by decide +kernel
/-- `keyOk` is needed: a key with a leading space does not round-trip (`trim` removes the space) … -/
example : (dictLoad (dictSave [([32, 97], 1)])).map (·.entries) = some [([97], 1)] := by decide +kernel
example : dictLoad (dictSave [([32, 97], 1)]) ≠ some { entries := [([32, 97], 1)], freqSum := 1 } := by
  intro h
  have := congrArg (Option.map (·.entries)) h
  revert this
  decide +kernel
/-- … a key of white space only, an empty key or a key with a tab make the saved file unloadable -/
example : loadPairs (dictSave [([32], 1)]) = none := by decide +kernel
example : loadPairs (dictSave [([], 1)]) = none := by decide +kernel
example : loadPairs (dictSave [([97, 9, 98], 1)]) = none := by decide +kernel
/-- … and distinct keys are needed: `load` merges equal keys (the later value wins) -/
example : (dictLoad (dictSave [([97], 2), ([97], 1)])).map (·.entries) = some [([97], 1)] := by decide +kernel
/-- `parseLine_keyOk`: `load` accepts a `+` sign and surrounding white space, the key it returns is well-formed -/
example : parseLine [32, 97, 32, 98, 9, 43, 53, 32, 13] = some ([97, 32, 98], 5) := by decide +kernel

/-! ### the relational acceptance test `dictAccept` (Model/Dict.lean) -/

theorem dictAccept_iff (lines : List (List Tok)) (maxSize maxSeq : Option Nat) (entries : List (Tok × Nat)) (freqSum : Nat) :
    dictAccept lines maxSize maxSeq entries freqSum = true ↔
    (let toks := (match maxSeq with | none => lines | some m => lines.take m).flatten
     (entries.map (·.1)).Nodup ∧
     (∀ e ∈ entries, e.2 = countOf toks e.1 ∧ 0 < e.2) ∧
     entries.length = (match maxSize with | none => (countAll toks).length | some k => min k (countAll toks).length) ∧
     (∀ t, t ∈ toks → t ∉ entries.map (·.1) → ∀ e ∈ entries, countOf toks t ≤ e.2) ∧
     freqSum = (entries.map (·.2)).sum) := by
  unfold dictAccept
  simp only [Bool.and_eq_true, beq_iff_eq, List.all_eq_true, Bool.or_eq_true, decide_eq_true_eq,
    List.contains_eq_mem, eraseDups_length_eq_iff, and_assoc]
  generalize (match maxSeq with | none => lines | some m => lines.take m).flatten = toks
  refine and_congr_right fun _ => and_congr (forall₂_congr fun _ _ => and_comm) (and_congr_right fun _ => and_congr ?_ Iff.rfl)
  -- the bound `toks.length + 1` on the fold is above every count, so only the kept frequencies matter
  simp only [le_foldl_min_iff, List.forall_mem_map, Prod.forall, countAll_spec]
  constructor
  · intro h t ht hnk e he
    exact ((h t _ ⟨ht, rfl⟩).resolve_left hnk).2 e he
  · rintro h t _ ⟨ht, rfl⟩
    refine (Decidable.em _).imp_right fun hnk => ⟨?_, h t ht hnk⟩
    rw [DictL.countOf_eq_count]
    exact Nat.le_succ_of_le List.count_le_length

/-- the modelled function's own result is accepted (the acceptance test never refuses the modelled code) -/
theorem dictCreate_accepted (lines : List (List Tok)) (maxSize maxSeq : Option Nat) :
    dictAccept lines maxSize maxSeq (dictCreate lines maxSize maxSeq).entries
      (dictCreate lines maxSize maxSeq).freqSum = true := by
  rw [dictAccept_iff]
  simp only [dictCreate]
  generalize (match maxSeq with | none => lines | some m => lines.take m).flatten = toks
  have hsub := topK_sub (countAll toks) maxSize
  have hsl : (topK (countAll toks) maxSize).Sublist (countAll toks) := by
    cases maxSize with
    | none => exact List.Sublist.refl _
    | some k => exact List.filter_sublist
  refine ⟨(hsl.map _).nodup (countAll_keys_nodup toks), fun e he => ?_, ?_, fun t ht hnk e he => ?_, trivial⟩
  · have := (countAll_spec toks e.1 e.2).1 (hsub e he)
    exact ⟨this.2, this.2 ▸ DictL.countOf_eq_count .. ▸ List.count_pos_iff.2 this.1⟩
  · cases maxSize with
    | none => rfl
    | some k => exact topK_length _ k (countAll_keys_nodup toks)
  · have hy := (countAll_spec toks t _).2 ⟨ht, rfl⟩
    have hny : (t, countOf toks t) ∉ topK (countAll toks) maxSize := fun h => hnk (List.mem_map_of_mem h)
    cases maxSize with
    | none => exact absurd hy hny
    | some k => exact topK_dominates _ k e _ he hy hny

/-- what acceptance means: the property's clauses -/
theorem dictAccept_spec (lines : List (List Tok)) (maxSize maxSeq : Option Nat) (entries : List (Tok × Nat)) (freqSum : Nat)
    (h : dictAccept lines maxSize maxSeq entries freqSum = true) :
    let toks := (match maxSeq with | none => lines | some m => lines.take m).flatten
    (entries.map (·.1)).Nodup ∧
    (∀ e ∈ entries, e.2 = countOf toks e.1 ∧ 0 < e.2) ∧
    entries.length = (match (generalizing := false) maxSize with | none => (countAll toks).length | some k => min k (countAll toks).length) ∧
    (∀ t, t ∈ toks → t ∉ entries.map (·.1) → ∀ e ∈ entries, countOf toks t ≤ e.2) ∧
    freqSum = (entries.map (·.2)).sum :=
  (dictAccept_iff ..).1 h

/-- … and conversely: the clauses of `dictAccept_spec` are all that acceptance asks for -/
theorem dictAccept_of_spec (lines : List (List Tok)) (maxSize maxSeq : Option Nat) (entries : List (Tok × Nat)) (freqSum : Nat)
    (h : let toks := (match maxSeq with | none => lines | some m => lines.take m).flatten
      (entries.map (·.1)).Nodup ∧
      (∀ e ∈ entries, e.2 = countOf toks e.1 ∧ 0 < e.2) ∧
      entries.length = (match maxSize with | none => (countAll toks).length | some k => min k (countAll toks).length) ∧
      (∀ t, t ∈ toks → t ∉ entries.map (·.1) → ∀ e ∈ entries, countOf toks t ≤ e.2) ∧
      freqSum = (entries.map (·.2)).sum) :
    dictAccept lines maxSize maxSeq entries freqSum = true :=
  (dictAccept_iff ..).2 h

/-- with no max_size every token of the used lines is an entry -/
theorem dictAccept_unlimited (lines : List (List Tok)) (maxSeq : Option Nat) (entries : List (Tok × Nat)) (freqSum : Nat)
    (h : dictAccept lines none maxSeq entries freqSum = true) :
    let toks := (match maxSeq with | none => lines | some m => lines.take m).flatten
    ∀ t, t ∈ toks → (t, countOf toks t) ∈ entries := by
  intro toks t ht
  obtain ⟨h1, h2, h3, -, -⟩ := (dictAccept_iff ..).1 h
  -- the keys are distinct tokens and as many as there are distinct tokens: they are all of them
  have hperm := perm_of_nodup_subset (entries.map (·.1)) toks.eraseDups h1 (fun k hk => ?_)
    (by rw [List.length_map, h3, countAll, List.length_map]; exact Nat.le_refl _)
  · obtain ⟨e, he, rfl⟩ := List.mem_map.1 (hperm.mem_iff.2 (List.mem_eraseDups.2 ht))
    exact (h2 e he).1 ▸ he
  · obtain ⟨e, he, rfl⟩ := List.mem_map.1 hk
    have := h2 e he
    exact List.mem_eraseDups.2 (List.count_pos_iff.1 (DictL.countOf_eq_count .. ▸ this.1 ▸ this.2))

/-! ### non-vacuity of the acceptance test: a frequency tie at the cut -/

/-- tokens `a`, `b`, each twice, `max_size = 1` -/
private def tieLines : List (List Tok) := [[[97], [98]], [[98], [97]]]

/-- BOTH survivors of the tie are accepted (the model keeps `b`, the greater word) … -/
example : dictAccept tieLines (some 1) none [([97], 2)] 2 = true := by decide +kernel
example : dictAccept tieLines (some 1) none [([98], 2)] 2 = true := by decide +kernel
example : (dictCreate tieLines (some 1) none).entries = [([98], 2)] := by decide +kernel
/-- … a wrong count, too many entries, too few entries, a wrong `freq_sum`, a token that does not occur and a
repeated key are refused -/
example : dictAccept tieLines (some 1) none [([97], 1)] 1 = false := by decide +kernel
example : dictAccept tieLines (some 1) none [([97], 2), ([98], 2)] 4 = false := by decide +kernel
example : dictAccept tieLines (some 1) none [] 0 = false := by decide +kernel
example : dictAccept tieLines (some 1) none [([97], 2)] 3 = false := by decide +kernel
example : dictAccept tieLines (some 1) none [([99], 0)] 0 = false := by decide +kernel
example : dictAccept tieLines (some 2) none [([97], 2), ([97], 2)] 4 = false := by decide +kernel
/-- a kept entry less frequent than an omitted one is refused (`a` three times, `b` once, `c` twice) -/
example : dictAccept [[[97], [98], [97]], [[99], [97], [99]]] (some 2) none [([97], 3), ([98], 1)] 4 = false := by decide +kernel
example : dictAccept [[[97], [98], [97]], [[99], [97], [99]]] (some 2) none [([99], 2), ([97], 3)] 5 = true := by decide +kernel
example : dictAccept [[[97], [98], [97]], [[99], [97], [99]]] (some 1) none [([99], 2)] 2 = false := by decide +kernel
/-- `max_size = 0`, the empty corpus, `max_sequences`, and no `max_size` (any order of the entries) -/
example : dictAccept tieLines (some 0) none [] 0 = true := by decide +kernel
example : dictAccept tieLines (some 0) none [([97], 2)] 2 = false := by decide +kernel
example : dictAccept [] (some 3) none [] 0 = true := by decide +kernel
example : dictAccept [] none none [] 0 = true := by decide +kernel
example : dictAccept [[[97], [98]], [[97]], [[99]]] none (some 2) [([98], 1), ([97], 2)] 3 = true := by decide +kernel
example : dictAccept [[[97], [98]], [[97]], [[99]]] none (some 2) [([97], 2), ([98], 1), ([99], 1)] 4 = false := by decide +kernel
example : dictAccept [[[97], [98]], [[97]], [[99]]] none (some 2) [([97], 2)] 2 = false := by decide +kernel

end Tu.C20

/-
  C14 — whitespace corruption changes only whitespace and stays label-consistent.
  Model: `Tu.corruptWsCl` (Model/Whitespace.lean).  `ds` is the list of per-character threshold
  outcomes `(r < delete_p, r < insert_p)`; every theorem is for *all* decision lists, hence for all
  probabilities and all seeds.
-/
import TuModel.Props.C10
import TuModel.Lemmas.WhitespaceL
namespace Tu.C14
open Tu Tu.C10

theorem cwAux_nonws (s : List (List Nat)) (ds : List (Bool × Bool)) (first prevWs : Bool)
    (h : ds.length = s.length) :
    removeWsCl (corruptWsAux s ds first prevWs) = removeWsCl s := by
  induction s generalizing ds first prevWs with
  | nil => rw [corruptWsAux_nil]
  | cons c cs ih =>
    match ds, h with
    | d :: ds, h =>
      have ih := fun p => ih ds false p (Nat.succ.inj h)
      cases hw : isWsCl c
      · rw [corruptWsAux_cons_nonws cs d ds _ _ hw, removeWsCl_cons_nonws hw, ← ih false]
        split
        · rw [removeWsCl_sp_cons, removeWsCl_cons_nonws hw]
        · rw [removeWsCl_cons_nonws hw]
      · rw [corruptWsAux_cons_ws cs d ds _ _ hw, removeWsCl_cons_ws hw, ← ih true]
        cases d.1
        · exact removeWsCl_cons_ws hw
        · rfl

/-- the non-whitespace character sequence is unchanged -/
theorem cw_nonws (s : List (List Nat)) (ds : List (Bool × Bool)) (h : ds.length = s.length) :
    removeWsCl (corruptWsCl s ds) = removeWsCl s := cwAux_nonws s ds true false h

/-- after a character an `sp` may appear, after `sp` the character follows with or without it -/
theorem cwAux_cleanCh {s : List (List Nat)} (hs : CleanCh s) : ∀ ds : List (Bool × Bool), ds.length = s.length →
    CleanCh (corruptWsAux s ds false false) := by
  induction hs with
  | nil => intro ds _; rw [corruptWsAux_nil]; exact .nil
  | @ch c r hw _ ih =>
    intro ds hl
    match ds, hl with
    | d :: ds, hl =>
      have := ih ds (Nat.succ.inj hl)
      rw [corruptWsAux_cons_nonws r d ds _ _ hw]
      split
      · exact .sep hw this
      · exact .ch hw this
  | @sep c r hw _ ih =>
    intro ds hl
    match ds, hl with
    | d :: e :: ds, hl =>
      have := ih ds (Nat.succ.inj (Nat.succ.inj hl))
      rw [corruptWsAux_cons_ws _ d _ _ _ isWsCl_sp, corruptWsAux_cons_nonws r e ds _ _ hw, Bool.not_true, Bool.and_false,
        if_neg Bool.false_ne_true]
      cases d.1
      · exact .sep hw this
      · exact .ch hw this

/-- the corrupted text is again in whitespace normal form -/
theorem cw_Clean (s : List (List Nat)) (ds : List (Bool × Bool)) (h : ds.length = s.length)
    (hc : CleanB s = true) : CleanB (corruptWsCl s ds) = true := by
  match s, ds, h with
  | [], ds, _ => rw [corruptWsCl, corruptWsAux_nil]; rfl
  | c :: r, d :: ds, h =>
    obtain ⟨hw, hr⟩ := CleanB_cons.mp hc
    rw [corruptWsCl, corruptWsAux_cons_nonws r d ds _ _ hw, Bool.not_true, Bool.and_false, Bool.false_and,
      if_neg Bool.false_ne_true]
    exact CleanB_cons.mpr ⟨hw, cwAux_cleanCh hr ds (Nat.succ.inj h)⟩

/-- **label consistency**: from the corrupted text, `operations` yields exactly one label per
character and `repair` recovers the original text -/
theorem cw_recover (s : List (List Nat)) (ds : List (Bool × Bool)) (h : ds.length = s.length)
    (hc : CleanB s = true) :
    ∃ o, wsOps (corruptWsCl s ds) s = some o ∧ o.length = (corruptWsCl s ds).length ∧
      repairCl (corruptWsCl s ds) o = some s :=
  ops_total_and_repair (cw_Clean s ds h hc) hc (cw_nonws s ds h)

theorem cwAux_no_delete (s : List (List Nat)) (ds : List (Bool × Bool)) (first prevWs : Bool)
    (h : ds.length = s.length) (hd : ∀ d ∈ ds, d.1 = false) :
    List.Sublist s (corruptWsAux s ds first prevWs) := by
  induction s generalizing ds first prevWs with
  | nil => rw [corruptWsAux_nil]; exact .slnil
  | cons c cs ih =>
    match ds, h with
    | d :: ds, h =>
      obtain ⟨hd0, hd'⟩ := List.forall_mem_cons.mp hd
      have ih := fun p => ih ds false p (Nat.succ.inj h) hd'
      cases hw : isWsCl c
      · rw [corruptWsAux_cons_nonws cs d ds _ _ hw]
        split
        · exact .cons _ ((ih false).cons_cons c)
        · exact (ih false).cons_cons c
      · rw [corruptWsAux_cons_ws cs d ds _ _ hw, hd0]
        exact (ih true).cons_cons c

/-- with delete probability 0 (no delete decision fires) nothing disappears: the original is a
subsequence of the output -/
theorem cw_no_delete (s : List (List Nat)) (ds : List (Bool × Bool)) (h : ds.length = s.length)
    (hd : ∀ d ∈ ds, d.1 = false) : List.Sublist s (corruptWsCl s ds) := cwAux_no_delete s ds true false h hd

theorem cwAux_no_insert (s : List (List Nat)) (ds : List (Bool × Bool)) (first prevWs : Bool)
    (hd : ∀ d ∈ ds, d.2 = false) :
    List.Sublist (corruptWsAux s ds first prevWs) s := by
  induction s generalizing ds first prevWs with
  | nil => rw [corruptWsAux_nil]; exact .slnil
  | cons c cs ih =>
    match ds with
    | [] => exact List.nil_sublist _
    | d :: ds =>
      obtain ⟨hd0, hd'⟩ := List.forall_mem_cons.mp hd
      have ih := fun p => ih ds false p hd'
      cases hw : isWsCl c
      · rw [corruptWsAux_cons_nonws cs d ds _ _ hw, hd0]
        exact (ih false).cons_cons c
      · rw [corruptWsAux_cons_ws cs d ds _ _ hw]
        cases d.1
        · exact (ih true).cons_cons c
        · exact .cons c (ih true)

/-- with insert probability 0 nothing appears: the output is a subsequence of the original -/
theorem cw_no_insert (s : List (List Nat)) (ds : List (Bool × Bool)) (hd : ∀ d ∈ ds, d.2 = false) :
    List.Sublist (corruptWsCl s ds) s := cwAux_no_insert s ds true false hd

/-- only separators are ever inserted or deleted: the output and the input agree after removing
whitespace, so in particular no whitespace count can change except through `ds` -/
theorem cw_length_bounds (s : List (List Nat)) (ds : List (Bool × Bool)) (h : ds.length = s.length) :
    (removeWsCl (corruptWsCl s ds)).length = (removeWsCl s).length := by rw [cw_nonws s ds h]

/-! non-vacuity -/
example : corruptWsCl [[97], [98], sp, [99]] [(false, true), (false, true), (true, false), (false, true)]
    = [[97], sp, [98], [99]] := by decide +kernel
example : CleanB [[97], [98], sp, [99]] = true := by decide +kernel

/-! ## the witness `cwWitness`: the corrupted cluster list of the first admissible explanation

`cwWitness f s true false out` is what the driver uses to derive the labels of the whitespace-correction task
(`wsOps inp s` for the returned `inp`).  It is defined exactly where `cwMatch` accepts
(`cwWitness_isSome_iff`, arbitrary flags); the returned cluster list spells `out` and is an output of the
function model for a decision list the flags allow (`cwWitness_spec`, consistent flags as for
`cwMatch_sound_partial`); hence for the probabilities of a request the derived labels are those of a genuine
corruption (`cwWitness_labels`). -/

/-- the witness exists exactly when the output is accepted -/
theorem cwWitness_isSome_iff (f : CwFlags) (s : List (List Nat)) (first prevWs : Bool) (out : List Nat) :
    (cwWitness f s first prevWs out).isSome = cwMatch f s first prevWs out := by
  induction s generalizing first prevWs out with
  | nil =>
    rw [cwWitness_nil, cwMatch_nil]
    cases out.isEmpty <;> rfl
  | cons c cs ih =>
    cases hw : isWsCl c
    · rw [cwWitness_cons_nonws f cs first prevWs out hw, cwMatch_cons_nonws f cs first prevWs out hw,
        Option.isSome_or, ite_none_isSome, ite_none_isSome, Option.isSome_map, Option.isSome_map, ih, ih]
    · rw [cwWitness_cons_ws f cs first prevWs out hw, cwMatch_cons_ws f cs first prevWs out hw,
        Option.isSome_or, ite_none_isSome, ite_none_isSome, Option.isSome_map, ih, ih]

/-- the witness is an output of the function model for a decision list the flags allow, and it spells `out` -/
theorem cwWitness_spec (f : CwFlags) (hf : f.consistent = true) (s : List (List Nat)) (first prevWs : Bool)
    (out : List Nat) (inp : List (List Nat)) (h : cwWitness f s first prevWs out = some inp) :
    inp.flatten = out ∧
    ∃ ds : List (Bool × Bool), ds.length = s.length ∧ (∀ d ∈ ds, f.allows d = true) ∧
      corruptWsAux s ds first prevWs = inp := by
  obtain ⟨hf1, hf2⟩ := f.consistent_iff_imp.mp hf
  induction s generalizing first prevWs out inp with
  | nil =>
    rw [cwWitness_nil] at h
    obtain ⟨he, h⟩ := Option.ite_none_right_eq_some.mp h
    cases h
    exact ⟨(List.isEmpty_iff.mp he).symm, [], rfl, fun _ h => absurd h List.not_mem_nil, corruptWsAux_nil _ _ _⟩
  | cons c cs ih =>
    -- in each of the four branches the recursive call explains the rest of `out`; the decision put in front takes
    -- the component the branch fixes and the "certain" flag for the other one, which consistent flags allow
    cases hw : isWsCl c
    · rw [cwWitness_cons_nonws f cs first prevWs out hw, Option.or_eq_some_iff] at h
      rcases h with h | ⟨_, h⟩
      · obtain ⟨hcond, h⟩ := Option.ite_none_right_eq_some.mp h
        obtain ⟨hcm, hp⟩ := Bool.and_eq_true_iff.mp hcond
        obtain ⟨hcan, hm⟩ := Bool.and_eq_true_iff.mp hcm
        obtain ⟨r, hr, rfl⟩ := Option.map_eq_some_iff.mp h
        obtain ⟨hfl, ds, hl, ha, rfl⟩ := ih _ _ _ _ hr
        refine ⟨?_, (f.mustDel, true) :: ds, congrArg (· + 1) hl, List.forall_mem_cons.mpr
          ⟨(f.allows_iff _ _).mpr ⟨⟨hf1, id⟩, fun _ => hm, fun _ => rfl⟩, ha⟩, ?_⟩
        · show (32 :: c) ++ (corruptWsAux cs ds false false).flatten = out
          rw [hfl]; exact isPrefixOf_split hp
        · rw [corruptWsAux_cons_nonws cs _ ds first prevWs hw, Bool.true_and, if_pos hcan]
      · obtain ⟨hcond, h⟩ := Option.ite_none_right_eq_some.mp h
        obtain ⟨hci, hp⟩ := Bool.and_eq_true_iff.mp hcond
        obtain ⟨r, hr, rfl⟩ := Option.map_eq_some_iff.mp h
        obtain ⟨hfl, ds, hl, ha, rfl⟩ := ih _ _ _ _ hr
        refine ⟨?_, (f.mustDel, f.mustIns) :: ds, congrArg (· + 1) hl, List.forall_mem_cons.mpr
          ⟨(f.allows_iff _ _).mpr ⟨⟨hf1, id⟩, hf2, id⟩, ha⟩, ?_⟩
        · rw [List.flatten_cons, hfl]; exact isPrefixOf_split hp
        · rw [corruptWsAux_cons_nonws cs _ ds first prevWs hw, if_neg]
          show ¬ (f.mustIns && !first && !prevWs) = true
          revert hci
          cases f.mustIns <;> cases first <;> cases prevWs <;> decide
    · rw [cwWitness_cons_ws f cs first prevWs out hw, Option.or_eq_some_iff] at h
      rcases h with h | ⟨_, h⟩
      · obtain ⟨hm, h⟩ := Option.ite_none_right_eq_some.mp h
        obtain ⟨hfl, ds, hl, ha, rfl⟩ := ih _ _ _ _ h
        exact ⟨hfl, (true, f.mustIns) :: ds, congrArg (· + 1) hl, List.forall_mem_cons.mpr
          ⟨(f.allows_iff _ _).mpr ⟨⟨fun _ => hm, fun _ => rfl⟩, hf2, id⟩, ha⟩,
          by rw [corruptWsAux_cons_ws cs _ ds first prevWs hw]; rfl⟩
      · obtain ⟨hcond, h⟩ := Option.ite_none_right_eq_some.mp h
        simp only [Bool.and_eq_true, Bool.not_eq_true'] at hcond
        obtain ⟨hnm, hp⟩ := hcond
        obtain ⟨r, hr, rfl⟩ := Option.map_eq_some_iff.mp h
        obtain ⟨hfl, ds, hl, ha, rfl⟩ := ih _ _ _ _ hr
        refine ⟨?_, (false, f.mustIns) :: ds, congrArg (· + 1) hl, List.forall_mem_cons.mpr
          ⟨(f.allows_iff _ _).mpr ⟨⟨nofun, fun h => by rw [hnm] at h; cases h⟩, hf2, id⟩, ha⟩,
          by rw [corruptWsAux_cons_ws cs _ ds first prevWs hw]; rfl⟩
        rw [List.flatten_cons, hfl]; exact isPrefixOf_split hp

/-- an accepted output has a witness, a refused one has none -/
theorem cwWitness_of_match (f : CwFlags) (s : List (List Nat)) (first prevWs : Bool) (out : List Nat)
    (h : cwMatch f s first prevWs out = true) : ∃ inp, cwWitness f s first prevWs out = some inp :=
  Option.isSome_iff_exists.mp ((cwWitness_isSome_iff f s first prevWs out).trans h)

theorem cwWitness_none_iff (f : CwFlags) (s : List (List Nat)) (first prevWs : Bool) (out : List Nat) :
    cwWitness f s first prevWs out = none ↔ cwMatch f s first prevWs out = false := by
  rw [← cwWitness_isSome_iff]
  cases cwWitness f s first prevWs out <;> simp

/-! ## the relational acceptance test `cwMatch` / `cwAllowed` accepts exactly the outputs of the model

`cwMatch f s true false out` is what the correspondence check evaluates (Drive/TextD.lean).  The theorems
below say that it accepts `out` iff `out` is the output of `corruptWsCl s ds` for a decision list `ds`
(one decision per character) every entry of which the flags allow.

Soundness for ARBITRARY flags is false: for the inconsistent flags
`⟨mayDel := true, mustDel := false, mayIns := false, mustIns := true⟩` ("insertion is impossible and
certain") no decision is allowed at all, yet `cwMatch` accepts `[]` for the text `[[32]]` (the examples
after `cwMatch_sound_partial`).  The statement is true exactly for flags with "certain ⇒ possible"
(`CwFlags.consistent`, equivalent to "some decision is allowed", `CwFlags.consistent_iff`), which
`CwFlags.ofPermille` always produces, so `cwAllowed_iff` holds as stated, without extra hypothesis. -/

/-- soundness, generalised over the position flags `first prevWs`: the witness is such a decision list's output -/
theorem cwMatchAux_sound (f : CwFlags) (hf : f.consistent = true) (s : List (List Nat))
    (first prevWs : Bool) (out : List Nat) (h : cwMatch f s first prevWs out = true) :
    ∃ ds : List (Bool × Bool), ds.length = s.length ∧ (∀ d ∈ ds, f.allows d = true) ∧
      (corruptWsAux s ds first prevWs).flatten = out := by
  obtain ⟨inp, hi⟩ := cwWitness_of_match f s first prevWs out h
  obtain ⟨hfl, ds, hl, ha, rfl⟩ := cwWitness_spec f hf s first prevWs out inp hi
  exact ⟨ds, hl, ha, hfl⟩

/-- completeness, generalised over the position flags `first prevWs` (arbitrary flags) -/
theorem cwMatchAux_complete (f : CwFlags) (s : List (List Nat)) (ds : List (Bool × Bool))
    (first prevWs : Bool) (hl : ds.length = s.length) (ha : ∀ d ∈ ds, f.allows d = true) :
    cwMatch f s first prevWs (corruptWsAux s ds first prevWs).flatten = true := by
  induction s generalizing ds first prevWs with
  | nil => rw [corruptWsAux_nil, cwMatch_nil]; rfl
  | cons c cs ih =>
    match ds, hl with
    | (a, b) :: ds, hl =>
      obtain ⟨had, ha'⟩ := List.forall_mem_cons.mp ha
      obtain ⟨⟨h1, h2⟩, h3, h4⟩ := (f.allows_iff a b).mp had
      have ih := fun p => ih ds false p (Nat.succ.inj hl) ha'
      cases hw : isWsCl c
      · rw [corruptWsAux_cons_nonws cs _ ds first prevWs hw, cwMatch_cons_nonws f cs first prevWs _ hw]
        split
        · rename_i hc
          obtain ⟨hbf, hp1⟩ := Bool.and_eq_true_iff.mp hc
          obtain ⟨hb, hf1⟩ := Bool.and_eq_true_iff.mp hbf
          have e : (sp :: c :: corruptWsAux cs ds false false).flatten =
              (32 :: c) ++ (corruptWsAux cs ds false false).flatten := rfl
          rw [e, hf1, hp1, h3 hb, isPrefixOf_append_self, List.drop_left' (l₁ := 32 :: c) (i := c.length + 1) rfl, ih]
          rfl
        · rename_i hc
          change ¬ (b && !first && !prevWs) = true at hc
          have hcond : (!(!first && !prevWs) || !f.mustIns) = true := by
            cases hm : f.mustIns
            · exact Bool.or_true _
            · rw [h4 hm] at hc
              revert hc
              cases first <;> cases prevWs <;> decide
          rw [List.flatten_cons, hcond, isPrefixOf_append_self, List.drop_left, ih]
          exact Bool.or_true _
      · rw [corruptWsAux_cons_ws cs _ ds first prevWs hw, cwMatch_cons_ws f cs first prevWs _ hw]
        cases a
        · have hnm : f.mustDel = false := by
            cases hm : f.mustDel
            · rfl
            · cases h2 hm
          simp only [Bool.false_eq_true, if_false, List.flatten_append, List.flatten_cons, List.flatten_nil,
            List.append_nil, hnm, Bool.not_false, Bool.true_and, isPrefixOf_append_self, List.drop_left, ih,
            Bool.or_true]
        · simp only [if_true, List.nil_append, h1 rfl, ih, Bool.and_self, Bool.true_or]

/-- soundness: an accepted output is the output of `corruptWsCl` for some decision list the flags allow;
for consistent flags (`mustDel → mayDel`, `mustIns → mayIns`) -/
theorem cwMatch_sound_partial (f : CwFlags) (hf : f.consistent = true) (s : List (List Nat))
    (out : List Nat) (h : cwMatch f s true false out = true) :
    ∃ ds : List (Bool × Bool), ds.length = s.length ∧ (∀ d ∈ ds, f.allows d = true) ∧
      (corruptWsCl s ds).flatten = out :=
  cwMatchAux_sound f hf s true false out h

/-- the counterexample to the unrestricted soundness statement: these flags allow no decision … -/
example : ∀ d : Bool × Bool, (CwFlags.mk true false false true).allows d = false := by
  rintro ⟨a, b⟩; cases a <;> cases b <;> decide
/-- … but the acceptance test accepts an output for a one-character text -/
example : cwMatch (CwFlags.mk true false false true) [[32]] true false [] = true := by decide +kernel
example : (CwFlags.mk true false false true).consistent = false := by decide +kernel
/-- the consistency hypothesis is necessary as soon as the text is not empty: soundness for one non-empty
text already implies it -/
theorem cwMatch_sound_needs_consistent (f : CwFlags) (s : List (List Nat)) (hs : s ≠ [])
    (out : List Nat) (h : cwMatch f s true false out = true)
    (hsound : ∃ ds : List (Bool × Bool), ds.length = s.length ∧ (∀ d ∈ ds, f.allows d = true) ∧
      (corruptWsCl s ds).flatten = out) : f.consistent = true := by
  obtain ⟨ds, hl, ha, _⟩ := hsound
  match s, ds, hs, hl, ha with
  | [], _, hs, _, _ => exact absurd rfl hs
  | _ :: _, d :: _, _, _, ha => exact (CwFlags.consistent_iff f).mpr ⟨d, ha d List.mem_cons_self⟩

/-- completeness: every output of the function model under allowed decisions is accepted -/
theorem cwMatch_complete (f : CwFlags) (s : List (List Nat)) (ds : List (Bool × Bool))
    (hl : ds.length = s.length) (ha : ∀ d ∈ ds, f.allows d = true) :
    cwMatch f s true false (corruptWsCl s ds).flatten = true :=
  cwMatchAux_complete f s ds true false hl ha

/-- acceptance = producibility, for consistent flags -/
theorem cwMatch_iff (f : CwFlags) (hf : f.consistent = true) (s : List (List Nat)) (out : List Nat) :
    cwMatch f s true false out = true ↔
      ∃ ds : List (Bool × Bool), ds.length = s.length ∧ (∀ d ∈ ds, f.allows d = true) ∧
        (corruptWsCl s ds).flatten = out := by
  constructor
  · exact cwMatch_sound_partial f hf s out
  · rintro ⟨ds, hl, ha, rfl⟩
    exact cwMatch_complete f s ds hl ha

/-- the two together, for the probabilities of a request (no extra hypothesis: the flags of two
probabilities are always consistent) -/
theorem cwAllowed_iff (iw dw : Nat) (s : List (List Nat)) (out : List Nat) :
    cwAllowed iw dw s out = true ↔
      ∃ ds : List (Bool × Bool), ds.length = s.length ∧
        (∀ d ∈ ds, (CwFlags.ofPermille iw dw).allows d = true) ∧
        (corruptWsCl s ds).flatten = out :=
  cwMatch_iff _ (CwFlags.ofPermille_consistent iw dw) s out

/-- every accepted output of a clean text is the flattening of a clustered text `corruptWsCl s ds` that
has the same non-whitespace clusters, is clean again, and from which `operations` / `repair` recover
the original (`cw_nonws`, `cw_Clean`, `cw_recover` for that `ds`) -/
theorem cwAllowed_props (iw dw : Nat) (s : List (List Nat)) (out : List Nat)
    (hc : CleanB s = true) (h : cwAllowed iw dw s out = true) :
    ∃ ds : List (Bool × Bool), ds.length = s.length ∧
      (∀ d ∈ ds, (CwFlags.ofPermille iw dw).allows d = true) ∧
      (corruptWsCl s ds).flatten = out ∧
      removeWsCl (corruptWsCl s ds) = removeWsCl s ∧
      CleanB (corruptWsCl s ds) = true ∧
      ∃ o, wsOps (corruptWsCl s ds) s = some o ∧ o.length = (corruptWsCl s ds).length ∧
        repairCl (corruptWsCl s ds) o = some s := by
  obtain ⟨ds, hl, ha, he⟩ := (cwAllowed_iff iw dw s out).mp h
  exact ⟨ds, hl, ha, he, cw_nonws s ds hl, cw_Clean s ds hl hc, cw_recover s ds hl hc⟩

/-- the part of `cwAllowed_props` that needs no cleanness: same non-whitespace clusters -/
theorem cwAllowed_nonws (iw dw : Nat) (s : List (List Nat)) (out : List Nat)
    (h : cwAllowed iw dw s out = true) :
    ∃ cl : List (List Nat), cl.flatten = out ∧ removeWsCl cl = removeWsCl s := by
  obtain ⟨ds, hl, _, he⟩ := (cwAllowed_iff iw dw s out).mp h
  exact ⟨corruptWsCl s ds, he, cw_nonws s ds hl⟩

/-- every accepted output has exactly the non-whitespace code points of the text, in order (a statement
about `out` itself; no hypothesis on the text) -/
theorem cwAllowed_nonws_cp (iw dw : Nat) (s : List (List Nat)) (out : List Nat)
    (h : cwAllowed iw dw s out = true) :
    out.filter (fun x => !isWsCp x) = s.flatten.filter (fun x => !isWsCp x) := by
  obtain ⟨ds, hl, _, rfl⟩ := (cwAllowed_iff iw dw s out).mp h
  rw [← filter_flatten_removeWsCl, cw_nonws s ds hl, filter_flatten_removeWsCl]

/-- with delete probability 0 every accepted output comes from a decision list that never deletes, so
(`cw_no_delete`) the text is a subsequence of the output: nothing disappears -/
theorem cwAllowed_no_delete_sublist (iw : Nat) (s : List (List Nat)) (out : List Nat)
    (h : cwAllowed iw 0 s out = true) : List.Sublist s.flatten out := by
  obtain ⟨ds, hl, ha, rfl⟩ := (cwAllowed_iff iw 0 s out).mp h
  exact sublist_flatten (cw_no_delete s ds hl fun d hd => Bool.eq_false_iff.mpr fun h1 =>
    Nat.lt_irrefl 0 (((CwFlags.ofPermille_allows_iff iw 0 d.1 d.2).mp (ha d hd)).1.1 h1))

/-- with insert probability 0 every accepted output comes from a decision list that never inserts, so
(`cw_no_insert`) the output is a subsequence of the text: nothing appears -/
theorem cwAllowed_no_insert_sublist (dw : Nat) (s : List (List Nat)) (out : List Nat)
    (h : cwAllowed 0 dw s out = true) : List.Sublist out s.flatten := by
  obtain ⟨ds, _, ha, rfl⟩ := (cwAllowed_iff 0 dw s out).mp h
  exact sublist_flatten (cw_no_insert s ds fun d hd => Bool.eq_false_iff.mpr fun h1 =>
    Nat.lt_irrefl 0 (((CwFlags.ofPermille_allows_iff 0 dw d.1 d.2).mp (ha d hd)).2.1 h1))

/-- with delete probability 1 (and dually insert probability 1) every decision of the witness deletes
(inserts): the "must" flags are not vacuous -/
theorem cwAllowed_must (iw dw : Nat) (s : List (List Nat)) (out : List Nat)
    (h : cwAllowed iw dw s out = true) :
    ∃ ds : List (Bool × Bool), ds.length = s.length ∧ (corruptWsCl s ds).flatten = out ∧
      (1000 ≤ dw → ∀ d ∈ ds, d.1 = true) ∧ (1000 ≤ iw → ∀ d ∈ ds, d.2 = true) := by
  obtain ⟨ds, hl, ha, he⟩ := (cwAllowed_iff iw dw s out).mp h
  exact ⟨ds, hl, he, fun hdw d hd => ((CwFlags.ofPermille_allows_iff iw dw d.1 d.2).mp (ha d hd)).1.2 hdw,
    fun hiw d hd => ((CwFlags.ofPermille_allows_iff iw dw d.1 d.2).mp (ha d hd)).2.2 hiw⟩

/-! non-vacuity of the acceptance test: the clean two-word text "ab cd" -/
example : CleanB [[97], [98], sp, [99], [100]] = true := by decide +kernel
/-- identity -/
example : cwAllowed 500 500 [[97], [98], sp, [99], [100]] [97, 98, 32, 99, 100] = true := by decide +kernel
/-- a space inserted before `b` -/
example : cwAllowed 500 500 [[97], [98], sp, [99], [100]] [97, 32, 98, 32, 99, 100] = true := by decide +kernel
/-- the space deleted -/
example : cwAllowed 500 500 [[97], [98], sp, [99], [100]] [97, 98, 99, 100] = true := by decide +kernel
/-- refused: a double space (no insertion directly after a space of the original) -/
example : cwAllowed 500 500 [[97], [98], sp, [99], [100]] [97, 98, 32, 32, 99, 100] = false := by decide +kernel
/-- refused: a space before the first character -/
example : cwAllowed 500 500 [[97], [98], sp, [99], [100]] [32, 97, 98, 32, 99, 100] = false := by decide +kernel
/-- refused: a changed non-whitespace character -/
example : cwAllowed 500 500 [[97], [98], sp, [99], [100]] [97, 98, 32, 99, 101] = false := by decide +kernel
/-- insert probability 0 refuses an inserted space -/
example : cwAllowed 0 500 [[97], [98], sp, [99], [100]] [97, 32, 98, 32, 99, 100] = false := by decide +kernel
/-- delete probability 0 refuses a deleted space -/
example : cwAllowed 500 0 [[97], [98], sp, [99], [100]] [97, 98, 99, 100] = false := by decide +kernel
/-- insert probability 1 refuses an output that lacks a mandatory insertion … -/
example : cwAllowed 1000 500 [[97], [98], sp, [99], [100]] [97, 98, 32, 99, 100] = false := by decide +kernel
example : cwAllowed 1000 500 [[97], [98], sp, [99], [100]] [97, 32, 98, 32, 99, 100] = false := by decide +kernel
/-- … and accepts the ones with all of them (space kept / deleted) -/
example : cwAllowed 1000 500 [[97], [98], sp, [99], [100]] [97, 32, 98, 32, 99, 32, 100] = true := by decide +kernel
example : cwAllowed 1000 500 [[97], [98], sp, [99], [100]] [97, 32, 98, 99, 32, 100] = true := by decide +kernel
/-- delete probability 1 refuses a kept space -/
example : cwAllowed 500 1000 [[97], [98], sp, [99], [100]] [97, 98, 32, 99, 100] = false := by decide +kernel
/-- the witness decision list of the iff for the accepted output with an inserted space -/
example : corruptWsCl [[97], [98], sp, [99], [100]]
    [(false, false), (false, true), (false, false), (false, false), (false, false)]
    = [[97], sp, [98], sp, [99], [100]] := by decide +kernel
/-- the empty cluster counts as whitespace in the model; test and function model agree on it -/
example : cwAllowed 500 500 [[], [97]] [97] = true := by decide +kernel
example : cwAllowed 500 500 [sp, [97], [98]] [97, 32, 98] = true := by decide +kernel
example : cwAllowed 500 500 [sp, [97], [98]] [32, 32, 97, 98] = false := by decide +kernel

/-- for the probabilities of a request: the labels the driver derives are those of a genuine corruption, so on a
clean text they exist, there is one per character of the corrupted text, and repairing the corrupted text with
them gives the original text back -/
theorem cwWitness_labels (iw dw : Nat) (s : List (List Nat)) (hc : CleanB s = true) (out : List Nat)
    (inp : List (List Nat))
    (h : cwWitness (CwFlags.ofPermille iw dw) s true false out = some inp) :
    inp.flatten = out ∧ CleanB inp = true ∧
    ∃ o, wsOps inp s = some o ∧ o.length = inp.length ∧ repairCl inp o = some s := by
  obtain ⟨hfl, ds, hl, _, rfl⟩ :=
    cwWitness_spec _ (CwFlags.ofPermille_consistent iw dw) s true false out inp h
  exact ⟨hfl, cw_Clean s ds hl hc, cw_recover s ds hl hc⟩

/-- the same, starting from acceptance: every accepted output of a clean text has a witness with these
properties (this is the situation of the driver: `cwAllowed` has succeeded) -/
theorem cwAllowed_witness_labels (iw dw : Nat) (s : List (List Nat)) (hc : CleanB s = true) (out : List Nat)
    (h : cwAllowed iw dw s out = true) :
    ∃ inp, cwWitness (CwFlags.ofPermille iw dw) s true false out = some inp ∧
      inp.flatten = out ∧ CleanB inp = true ∧ removeWsCl inp = removeWsCl s ∧
      ∃ o, wsOps inp s = some o ∧ o.length = inp.length ∧ repairCl inp o = some s := by
  obtain ⟨inp, hi⟩ := cwWitness_of_match _ s true false out h
  obtain ⟨hfl, hcl, o, ho, hlen, hrep⟩ := cwWitness_labels iw dw s hc out inp hi
  exact ⟨inp, hi, hfl, hcl, (repair_nonws hrep).symm, o, ho, hlen, hrep⟩

/-! non-vacuity of the witness: the clean two-word text "ab cd" -/
/-- a space inserted before `b` -/
example : cwWitness (CwFlags.ofPermille 500 500) [[97], [98], sp, [99], [100]] true false
    [97, 32, 98, 32, 99, 100] = some [[97], sp, [98], sp, [99], [100]] := by decide +kernel
/-- the space deleted -/
example : cwWitness (CwFlags.ofPermille 500 500) [[97], [98], sp, [99], [100]] true false
    [97, 98, 99, 100] = some [[97], [98], [99], [100]] := by decide +kernel
/-- identity -/
example : cwWitness (CwFlags.ofPermille 500 500) [[97], [98], sp, [99], [100]] true false
    [97, 98, 32, 99, 100] = some [[97], [98], sp, [99], [100]] := by decide +kernel
/-- a refused output (double space) has no witness -/
example : cwWitness (CwFlags.ofPermille 500 500) [[97], [98], sp, [99], [100]] true false
    [97, 98, 32, 32, 99, 100] = none := by decide +kernel
/-- the labels derived from the two witnesses, and the repair -/
example : wsOps [[97], sp, [98], sp, [99], [100]] [[97], [98], sp, [99], [100]] =
    some [.keep, .delete, .keep, .keep, .keep, .keep] := by decide +kernel
example : wsOps [[97], [98], [99], [100]] [[97], [98], sp, [99], [100]] =
    some [.keep, .keep, .insert, .keep] := by decide +kernel
example : repairCl [[97], [98], [99], [100]] [.keep, .keep, .insert, .keep] =
    some [[97], [98], sp, [99], [100]] := by decide +kernel
/-- several explanations (text "a  b" with two separators, one of them deleted): the first admissible one,
which deletes the FIRST separator, is returned; both explanations give the same cluster list -/
example : cwWitness (CwFlags.ofPermille 500 500) [[97], sp, sp, [98]] true false [97, 32, 98] =
    some [[97], sp, [98]] := by decide +kernel
/-- "ab" → "a b": only by insertion -/
example : cwWitness (CwFlags.ofPermille 500 500) [[97], [98]] true false [97, 32, 98] =
    some [[97], sp, [98]] := by decide +kernel
/-- empty clusters count as white space and may vanish or stay: two explanations with DIFFERENT cluster
lists (same code points); the first admissible one (deletion, if the delete probability is > 0) is returned.
Then a text starting with white space. -/
example : cwWitness (CwFlags.ofPermille 500 500) [[], [97]] true false [97] = some [[97]] := by decide +kernel
example : cwWitness (CwFlags.ofPermille 500 0) [[], [97]] true false [97] = some [[], [97]] := by decide +kernel
example : cwWitness (CwFlags.ofPermille 500 500) [sp, [97], [98]] true false [97, 32, 98] =
    some [[97], sp, [98]] := by decide +kernel
example : cwWitness (CwFlags.ofPermille 500 500) [sp, [97], [98]] true false [32, 32, 97, 98] = none := by
  decide +kernel

end Tu.C14

/-
  C17 — token groups, group weights, the sparse COO matrix and padding.
  Model: `Tu.groupWeights`, `Tu.sparseCoo`, `Tu.paddingMask`, `Tu.padIds` (Model/Groups.lean),
  `Tu.byteGroups` (Model/ByteTok.lean).
-/
import TuModel.Model.Groups
import TuModel.Lemmas.GroupsL
namespace Tu.C17
open Tu

/-- value equality of two fractions -/
def Q.eqv (a b : Q) : Prop := a.num * b.den = b.num * a.den
/-- exact sum of a list of fractions -/
def qsum (l : List Q) : Q := l.foldl Q.add Q.zero

instance (a b : Q) : Decidable (Q.eqv a b) := inferInstanceAs (Decidable (_ = _))

/-! ### group weights -/

/-- one weight per token of the group -/
theorem groupWeights_length (mean : Bool) (g : TGroup) : (groupWeights mean g).length = g.len :=
  GroupsL.groupWeights_length mean g

/-- sum aggregation: all ones -/
theorem groupWeights_sum_mode (g : TGroup) : ∀ w ∈ groupWeights false g, w = Q.one := by
  intro w hw
  cases g with
  | full n =>
    simp only [groupWeights, Bool.false_eq_true, if_false] at hw
    exact (List.mem_replicate.1 hw).2
  | nested gs =>
    simp only [groupWeights, Bool.false_eq_true, if_false, List.mem_flatMap] at hw
    obtain ⟨n, _, hn⟩ := hw
    rw [(List.mem_replicate.1 hn).2]
    rfl

/-- mean aggregation: the weights of a (non-degenerate) group sum to one -/
theorem groupWeights_mean_full (n : Nat) (hn : 0 < n) : Q.eqv (qsum (groupWeights true (.full n))) Q.one := by
  have := GroupsL.Adds.replicate 1 hn n
  rw [Nat.mul_one] at this
  exact GroupsL.Adds.sum_one hn this

theorem groupWeights_mean_nested (gs : List Nat) (hne : gs ≠ []) (hpos : ∀ n ∈ gs, 0 < n) :
    Q.eqv (qsum (groupWeights true (.nested gs))) Q.one := by
  have hL : 0 < gs.length := List.length_pos_iff.2 hne
  -- the `n` tokens of an inner group weigh `1/(n·L)` each, `1/L` together
  have := GroupsL.Adds.flatMap (a := 1 * 1) (fun n => List.replicate n (Q.mul ⟨1, n⟩ ⟨1, gs.length⟩)) hL gs fun n hn =>
    GroupsL.Adds.cancel (hpos n hn) (GroupsL.Adds.replicate (1 * 1) (Nat.mul_pos (hpos n hn) hL) n)
  rw [Nat.mul_one] at this
  exact GroupsL.Adds.sum_one hL this

/-! ### byte tokenizer groups -/

/-- **the group lengths sum to the number of token ids, with one group per character, special
token, prefix and suffix token** -/
theorem byteGroups_sum (cfg : ByteCfg) (pieces : List (Option (List (List Nat)))) :
    ((byteGroups cfg pieces).map TGroup.len).sum =
      cfg.sp.prefixIds.length +
      (pieces.map (fun p => match p with | none => 1 | some cl => (cl.flatten.map utf8Len).sum)).sum +
      cfg.sp.suffixIds.length := by
  simp only [byteGroups, List.map_append, List.sum_append, TGroup.len,
    List.map_const', List.map_replicate, List.sum_replicate_nat, Nat.mul_one, GroupsL.sum_flatMap_map]
  congr 2
  congr 1
  apply List.map_congr_left
  intro p _
  cases p with
  | none => rfl
  | some cl => exact GroupsL.regularGroups_sum _ cl

theorem byteGroups_count (cfg : ByteCfg) (pieces : List (Option (List (List Nat)))) :
    (byteGroups cfg pieces).length =
      cfg.sp.prefixIds.length + (pieces.map (fun p => match p with | none => 1 | some cl => cl.length)).sum +
        cfg.sp.suffixIds.length := by
  simp only [byteGroups, List.length_append, List.length_map, List.length_flatMap]
  congr 2
  congr 1
  apply List.map_congr_left
  intro p _
  cases p with
  | none => rfl
  | some cl => exact GroupsL.regularGroups_length _ cl

/-- the UTF-8 encoding of a code point has `utf8Len` bytes (so the group lengths count bytes =
token ids) -/
theorem utf8_length (c : Nat) : (utf8 c).length = utf8Len c := by
  rw [utf8, utf8Len, apply_ite List.length, apply_ite List.length, apply_ite List.length]
  rfl

/-! ### the sparse COO matrix -/

/-- the sparse matrix is produced whenever the group lengths of every item sum to its token count … -/
theorem sparseCoo_total (groupings : List (List TGroup × Bool)) (lengths : List Nat)
    (hl : groupings.length = lengths.length)
    (hs : ∀ p ∈ groupings.zip lengths, (p.1.1.map TGroup.len).sum = p.2) :
    (sparseCoo groupings lengths).isSome = true := by
  unfold sparseCoo
  have h1 : (groupings.length != lengths.length) = false := by simp [hl]
  have h2 : (groupings.zip lengths).any (fun ((gs, _), l) => (gs.map TGroup.len).sum != l) = false := by
    rw [List.any_eq_false]
    intro p hp
    have := hs p hp
    obtain ⟨⟨gs, m⟩, l⟩ := p
    simpa using this
  simp only [h1, h2, Bool.false_eq_true, if_false, Option.isSome_some]

/-- … has exactly one entry per token … -/
theorem sparseCoo_entries (groupings : List (List TGroup × Bool)) (lengths : List Nat) (c : Coo)
    (h : sparseCoo groupings lengths = some c) :
    c.rowBatch.length = lengths.sum ∧ c.rowGroup.length = lengths.sum ∧ c.rowToken.length = lengths.sum ∧
      c.values.length = lengths.sum := by
  obtain ⟨rfl, rfl⟩ := GroupsL.sparseCoo_some h
  simp only [List.length_map, GroupsL.cooEntries_length, and_self]

/-- … and every index lies inside the declared size -/
theorem sparseCoo_in_bounds (groupings : List (List TGroup × Bool)) (lengths : List Nat) (c : Coo)
    (h : sparseCoo groupings lengths = some c) (k : Nat) (hk : k < c.rowBatch.length) :
    c.size.length = 3 ∧ c.rowBatch.getD k 0 < c.size.getD 0 0 ∧ c.rowGroup.getD k 0 < c.size.getD 1 0 ∧
      c.rowToken.getD k 0 < c.size.getD 2 0 := by
  obtain ⟨rfl, rfl⟩ := GroupsL.sparseCoo_some h
  simp only [List.length_map] at hk
  have hm := GroupsL.cooEntries_mem groupings _ (List.getElem_mem hk)
  simp only [List.getD_eq_getElem?_getD, List.getElem?_map, List.getElem?_eq_getElem hk, Option.map_some,
    Option.getD_some, List.length_cons, List.length_nil, List.getElem?_cons_zero, List.getElem?_cons_succ]
  exact ⟨trivial, hm⟩

/-! ### padding -/

/-- **padded matrices contain each item's values followed only by padding, and report the true
lengths** -/
theorem padIds_spec (rows : List (List Nat)) (pad : Nat) :
    (padIds rows pad).2 = rows.map List.length ∧
    (padIds rows pad).1.length = rows.length ∧
    ∀ i, i < rows.length →
      ∃ m, (∀ r ∈ rows, r.length ≤ m) ∧
        (padIds rows pad).1.getD i [] = rows.getD i [] ++ List.replicate (m - (rows.getD i []).length) pad ∧
        ((padIds rows pad).1.getD i []).length = m := by
  refine ⟨rfl, by simp [padIds], ?_⟩
  intro i hi
  have hb : ∀ r ∈ rows, r.length ≤ (rows.map List.length).foldl max 0 := fun r hr =>
    (foldl_max_le_iff.1 (Nat.le_refl _)).2 _ (List.mem_map.2 ⟨r, hr, rfl⟩)
  refine ⟨(rows.map List.length).foldl max 0, hb, ?_⟩
  simp only [padIds]
  rw [getD_map _ rows i hi []]
  refine ⟨rfl, ?_⟩
  have := hb _ (getD_mem rows i [] hi)
  simp only [List.length_append, List.length_replicate]
  omega

theorem paddingMask_spec (lengths : List Nat) :
    (paddingMask lengths).length = lengths.length ∧
    ∀ i, i < lengths.length → ∃ m, (∀ l ∈ lengths, l ≤ m) ∧
      (paddingMask lengths).getD i [] =
        List.replicate (lengths.getD i 0) true ++ List.replicate (m - lengths.getD i 0) false := by
  refine ⟨by simp [paddingMask], ?_⟩
  intro i hi
  refine ⟨lengths.foldl max 0, (foldl_max_le_iff.1 (Nat.le_refl _)).2, ?_⟩
  simp only [paddingMask]
  rw [getD_map _ lengths i hi 0]

/-! ### non-vacuity -/

example : groupWeights true (.nested [2, 1]) = [⟨1, 4⟩, ⟨1, 4⟩, ⟨1, 2⟩] := by decide +kernel
example : qsum (groupWeights true (.nested [2, 1])) = ⟨32, 32⟩ := by decide +kernel
example : qsum (groupWeights true (.full 3)) = ⟨27, 27⟩ := by decide +kernel
example : groupWeights false (.nested [2, 1]) = [Q.one, Q.one, Q.one] := by decide +kernel
/-- the hypothesis `0 < n` / `gs ≠ []` is needed: the empty sum is 0 -/
example : ¬ Q.eqv (qsum (groupWeights true (.full 0))) Q.one := by decide +kernel
example : ¬ Q.eqv (qsum (groupWeights true (.nested []))) Q.one := by decide +kernel
/-- a zero-length inner group makes the mean weights sum to less than one -/
example : ¬ Q.eqv (qsum (groupWeights true (.nested [0, 1]))) Q.one := by decide +kernel

/-- two items, the first with a nested group (`Coo` has no `DecidableEq`, so its fields are compared) -/
example :
    (sparseCoo [([.nested [2, 1], .full 1], true), ([.full 2], false)] [4, 2]).map
        (fun c => (c.rowBatch, c.rowGroup, c.rowToken)) =
      some ([0, 0, 0, 0, 1, 1], [0, 0, 0, 1, 0, 0], [0, 1, 2, 3, 0, 1]) := by decide +kernel
example :
    (sparseCoo [([.nested [2, 1], .full 1], true), ([.full 2], false)] [4, 2]).map
        (fun c => (c.values, c.size, c.groupLengths)) =
      some ([⟨1, 4⟩, ⟨1, 4⟩, ⟨1, 2⟩, ⟨1, 1⟩, ⟨1, 1⟩, ⟨1, 1⟩], [2, 2, 4], [2, 1]) := by decide +kernel
/-- the offset assertion: group lengths not summing to the token count -/
example : sparseCoo [([.full 2], true)] [3] = none := by decide +kernel
example : sparseCoo [([.full 2], true)] [2, 1] = none := by decide +kernel

example : padIds [[7, 8, 9], [], [5]] 0 = ([[7, 8, 9], [0, 0, 0], [5, 0, 0]], [3, 0, 1]) := by decide +kernel
example : paddingMask [2, 0, 3] = [[true, true, false], [false, false, false], [true, true, true]] := by decide +kernel
example : utf8 0x20AC = [0xE2, 0x82, 0xAC] := by decide +kernel

/-! ### the tensorised batch of every task kind -/

/-- the id matrix and the lengths are `pad_ids` of the items' ids with the INPUT side's pad id (so
`padIds_spec` applies: each row is the item's ids followed only by that padding; true lengths) -/
theorem tensorize_ids (k pad tpad : Nat) (rows trows lrows : List (List Nat)) :
    ((tensorize k pad tpad rows trows lrows).ids, (tensorize k pad tpad rows trows lrows).lens) = padIds rows pad := by
  simp [tensorize]

/-- conditional generation: the target matrix is `pad_ids` of the target ids with the TARGET side's pad id -/
theorem tensorize_target (pad tpad : Nat) (rows trows lrows : List (List Nat)) :
    (tensorize 3 pad tpad rows trows lrows).target = some (padIds trows tpad) := by
  simp [tensorize]

theorem tensorize_no_target (k pad tpad : Nat) (rows trows lrows : List (List Nat)) (hk : k ≠ 3) :
    (tensorize k pad tpad rows trows lrows).target = none := by
  simp [tensorize, hk]

/-- sequence tasks: the label matrix is `pad_ids` of the label rows with the ignore label (-1, `0` on the wire) -/
theorem tensorize_labels (k pad tpad : Nat) (rows trows lrows : List (List Nat)) (hk : k ≠ 0) :
    (tensorize k pad tpad rows trows lrows).labels = (padIds lrows 0).1 := by
  simp [tensorize, hk]

/-- hence every target row is the item's target ids followed only by the target padding -/
theorem tensorize_target_rows (pad tpad : Nat) (rows trows lrows : List (List Nat)) (i : Nat) (hi : i < trows.length) :
    ∃ tm tl m, (tensorize 3 pad tpad rows trows lrows).target = some (tm, tl) ∧ tl = trows.map List.length ∧
      (∀ r ∈ trows, r.length ≤ m) ∧
      tm.getD i [] = trows.getD i [] ++ List.replicate (m - (trows.getD i []).length) tpad := by
  obtain ⟨h1, _, h3⟩ := padIds_spec trows tpad
  obtain ⟨m, hm, hrow, _⟩ := h3 i hi
  exact ⟨(padIds trows tpad).1, (padIds trows tpad).2, m, by rw [tensorize_target], h1, hm, hrow⟩

example : (tensorize 3 9 7 [[1, 2], [3]] [[4], [5, 6, 6]] [[1], [1, 2, 2]]).target = some ([[4, 7, 7], [5, 6, 6]], [1, 3]) := by decide +kernel
example : (tensorize 3 9 7 [[1, 2], [3]] [[4], [5, 6, 6]] [[1], [1, 2, 2]]).ids = [[1, 2], [3, 9]] := by decide +kernel

end Tu.C17

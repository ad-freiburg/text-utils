/-
  Lemmas for C15 (`corrupt::edit_word`): which results each edit kind lists; each of the four edits is a
  `splice`, and what a splice keeps (`Kept`) is proved once; `normExclS`, a structurally recursive `normExcl`
  that `decide` can evaluate.
-/
import TuModel.Model.Corrupt
import TuModel.Lemmas.ListL
namespace Tu

theorem mem_normExcl {x : Nat} {l : List Nat} : x ∈ normExcl l ↔ x ∈ l := by
  simp [normExcl, List.mem_eraseDups]

theorem getD_mod_mem {α : Type} {l : List α} (hl : l ≠ []) (n : Nat) (d : α) : l.getD (n % l.length) d ∈ l :=
  getD_mem l _ d (Nat.mod_lt _ (List.length_pos_iff.2 hl))

theorem exists_getD_mod {α : Type} {l : List α} {x : α} (hx : x ∈ l) (d : α) : ∃ n, l.getD (n % l.length) d = x := by
  obtain ⟨i, hi, rfl⟩ := List.getElem_of_mem hx
  exact ⟨i, by rw [Nat.mod_eq_of_lt hi, getD_eq_getElem l i d hi]⟩

theorem forall_mem_getD {α : Type} {o : Option (List α)} {P : α → Prop} (h : ∀ t, o = some t → ∀ x ∈ t, P x) :
    ∀ x ∈ o.getD [], P x := by
  cases o with
  | none => exact fun _ h => nomatch h
  | some t => exact h t rfl

theorem getElem?_append_add {α : Type} {A B : List α} {n : Nat} (h : A.length = n) (k : Nat) :
    (A ++ B)[n + k]? = B[k]? := by
  rw [List.getElem?_append_right (h ▸ Nat.le_add_right _ _), h, Nat.add_sub_cancel_left]

theorem eq_or_mem_of_mem_ite {β} {p : Prop} [Decidable p] {d r : β} {g : List β} (h : r ∈ if p then [d] else g) :
    r = d ∨ r ∈ g := by
  split at h
  · exact Or.inl (List.mem_singleton.1 h)
  · exact Or.inr h

variable {c : EditCfg} {word : List Cl} {excl : List Nat} {r : List Cl × List Nat} {idx : Nat} {e : List Cl}

/-- the candidate list of the two table-driven kinds -/
theorem mem_tableCands {n : Nat} {blocked : Nat → Bool} {look : Nat → Option (List (List Cl))} {p : Nat × List (List Cl)}
    (h : p ∈ (List.range n).filterMap fun idx => if blocked idx then none else (look idx).map fun es => (idx, es)) :
    p.1 < n ∧ blocked p.1 = false ∧ look p.1 = some p.2 := by
  obtain ⟨i, hi, h⟩ := List.mem_filterMap.1 h
  split at h
  · cases h
  · obtain ⟨es, hl, rfl⟩ := Option.map_eq_some_iff.1 h
    exact ⟨List.mem_range.1 hi, Bool.eq_false_iff.2 ‹_›, hl⟩

theorem mem_kindOutcomes_ins (h : r ∈ kindOutcomes c word excl .ins) :
    r = (word, normExcl excl) ∨
    ∃ idx e, idx ≤ word.length ∧ idx ∉ excl ∧ (0 < idx → idx - 1 ∉ excl) ∧ r = applyInsert word excl idx e := by
  refine (eq_or_mem_of_mem_ite h).imp_right fun h => ?_
  obtain ⟨⟨idx, es⟩, hp, hr⟩ := List.mem_flatMap.1 h
  obtain ⟨e, _, rfl⟩ := List.mem_map.1 hr
  obtain ⟨h1, h2, _⟩ := mem_tableCands hp
  simp only [List.contains_eq_mem, Bool.or_eq_false_iff, Bool.and_eq_false_imp, decide_eq_true_eq,
    decide_eq_false_iff_not] at h2
  exact ⟨idx, e, Nat.le_of_lt_succ h1, h2.1, h2.2, rfl⟩

theorem mem_kindOutcomes_del (h : r ∈ kindOutcomes c word excl .del) :
    r = (word, normExcl excl) ∨
    ∃ idx, idx < word.length ∧ idx ∉ excl ∧ r = applyDelete word excl idx := by
  refine (eq_or_mem_of_mem_ite h).imp_right fun h => ?_
  obtain ⟨idx, hc, rfl⟩ := List.mem_map.1 h
  obtain ⟨h1, h2⟩ := List.mem_filter.1 hc
  simp only [List.contains_eq_mem, Bool.and_eq_true, Bool.not_eq_true', decide_eq_false_iff_not] at h2
  exact ⟨idx, List.mem_range.1 h1, h2.1.1, rfl⟩

theorem mem_kindOutcomes_rep (h : r ∈ kindOutcomes c word excl .rep) :
    r = (word, normExcl excl) ∨
    ∃ idx e, idx < word.length ∧ idx ∉ excl ∧ r = applyReplace word excl idx e := by
  refine (eq_or_mem_of_mem_ite h).imp_right fun h => ?_
  obtain ⟨⟨idx, es⟩, hp, hr⟩ := List.mem_flatMap.1 h
  obtain ⟨e, _, rfl⟩ := List.mem_map.1 hr
  obtain ⟨h1, h2, _⟩ := mem_tableCands hp
  exact ⟨idx, e, h1, by simpa using h2, rfl⟩

theorem mem_kindOutcomes_swp (h : r ∈ kindOutcomes c word excl .swp) :
    r = (word, normExcl excl) ∨
    ∃ idx, idx + 1 < word.length ∧ idx ∉ excl ∧ idx + 1 ∉ excl ∧ r = applySwap word excl idx := by
  refine (eq_or_mem_of_mem_ite h).elim Or.inl fun h => (eq_or_mem_of_mem_ite h).imp_right fun h => ?_
  obtain ⟨idx, hc, rfl⟩ := List.mem_map.1 h
  obtain ⟨h1, h2⟩ := List.mem_filter.1 hc
  simp only [List.contains_eq_mem, Bool.and_eq_true, Bool.not_eq_true', Bool.or_eq_false_iff,
    decide_eq_false_iff_not] at h2
  exact ⟨idx, Nat.add_lt_of_lt_sub (List.mem_range.1 h1), h2.1.1, h2.1.2, rfl⟩

/-- what `edit_word` guarantees of a result `r` for `(word, excl)`: the new exclusion set lies inside the new word
(if the old one did), and every excluded position has a counterpart, again excluded, that holds the same character -/
def Kept (word : List Cl) (excl : List Nat) (r : List Cl × List Nat) : Prop :=
  ((∀ i ∈ excl, i < word.length) → ∀ j ∈ r.2, j < r.1.length) ∧ ∀ i ∈ excl, ∃ j, j ∈ r.2 ∧ r.1[j]? = word[i]?

theorem Kept.refl (word : List Cl) (excl : List Nat) : Kept word excl (word, normExcl excl) :=
  ⟨fun hex j hj => hex j (mem_normExcl.1 hj), fun i hi => ⟨i, mem_normExcl.2 hi, rfl⟩⟩

theorem Kept.trans {r' : List Cl × List Nat} (h : Kept word excl r) (h' : Kept r.1 r.2 r') : Kept word excl r' :=
  ⟨fun hex => h'.1 (h.1 hex), fun i hi =>
    let ⟨j, hj, e⟩ := h.2 i hi
    let ⟨k, hk, e'⟩ := h'.2 j hj
    ⟨k, hk, e'.trans e⟩⟩

/-- where position `i` goes when the `del` characters from `idx` on are replaced by `m` others -/
def shift (idx del m i : Nat) : Nat := if idx + del ≤ i then i + m - del else i

theorem shift_of_lt {del m i : Nat} (h : i < idx) : shift idx del m i = i :=
  if_neg (Nat.not_le_of_lt (Nat.lt_add_right _ h))

theorem shift_add (idx del m j : Nat) : shift idx del m (idx + del + j) = idx + (m + j) := by
  rw [shift, if_pos (Nat.le_add_right _ _)]
  exact Nat.sub_eq_of_eq_add (by ac_rfl)

theorem shift_self (idx d i : Nat) : shift idx d d i = i := by
  rw [shift, Nat.add_sub_cancel, ite_self]

/-- every edit is of this form: `mid` in place of the `del` characters from `idx` on, the excluded positions
moved along, those of `mid` excluded as well -/
def splice (word : List Cl) (excl : List Nat) (idx del : Nat) (mid : List Cl) : List Cl × List Nat :=
  (word.take idx ++ (mid ++ word.drop (idx + del)),
   normExcl (excl.map (shift idx del mid.length) ++ (List.range mid.length).map (idx + ·)))

theorem applyInsert_eq : applyInsert word excl idx e = splice word excl idx 0 e := by
  rw [applyInsert, List.append_assoc]
  rfl

theorem applyDelete_eq : applyDelete word excl idx = splice word excl idx 1 [] := by
  rw [applyDelete, ← List.append_nil (List.map _ excl)]
  rfl

theorem applyReplace_eq : applyReplace word excl idx e = splice word excl idx 1 e := by
  rw [applyReplace, List.append_assoc]
  rfl

theorem applySwap_eq :
    applySwap word excl idx = splice word excl idx 2 [word.getD (idx + 1) [], word.getD idx []] := by
  show _ = (_, normExcl (excl.map (shift idx 2 2) ++ _))
  rw [List.map_id'' (shift_self idx 2)]
  rfl

theorem kept_splice {mid : List Cl} {del : Nat} (hidx : idx + del ≤ word.length)
    (hex : ∀ i ∈ excl, idx ≤ i → idx + del ≤ i) : Kept word excl (splice word excl idx del mid) := by
  have hA : (word.take idx).length = idx := List.length_take_of_le (Nat.le_of_add_right_le hidx)
  have hp : ∀ i ∈ excl, (splice word excl idx del mid).1[shift idx del mid.length i]? = word[i]? := fun i hi => by
    unfold splice
    rcases Nat.lt_or_ge i idx with h | h
    · rw [shift_of_lt h, List.getElem?_append_left (hA.symm ▸ h), List.getElem?_take_of_lt h]
    · obtain ⟨j, rfl⟩ := Nat.exists_eq_add_of_le (hex i hi h)
      rw [shift_add, getElem?_append_add hA, getElem?_append_add rfl, List.getElem?_drop]
  refine ⟨fun hb j hj => ?_, fun i hi => ⟨_, mem_normExcl.2 (List.mem_append_left _ (List.mem_map_of_mem hi)), hp i hi⟩⟩
  rcases List.mem_append.1 (mem_normExcl.1 hj) with h | h
  · -- a position that holds a character of the old word lies inside the new one
    obtain ⟨i, hi, rfl⟩ := List.mem_map.1 h
    exact Nat.lt_of_not_le fun hle =>
      Nat.not_le_of_lt (hb i hi) (List.getElem?_eq_none_iff.1 (hp i hi ▸ List.getElem?_eq_none hle))
  · obtain ⟨k, hk, rfl⟩ := List.mem_map.1 h
    rw [splice, List.length_append, List.length_append, hA]
    exact Nat.add_lt_add_left (Nat.lt_add_right _ (List.mem_range.1 hk)) _

theorem mem_kinds {k : EdKind} : k ∈ c.kinds ↔
    match k with
    | .ins => c.insert.isSome
    | .del => c.delete.isSome
    | .rep => c.replace.isSome
    | .swp => c.swap := by
  simp only [EditCfg.kinds, List.mem_append, List.mem_ite_nil_right, List.mem_singleton]
  cases k <;> simp

theorem mem_outcomes : r ∈ outcomes c word excl ↔
    c.kinds = [] ∧ r = (word, normExcl excl) ∨ ∃ kind ∈ c.kinds, r ∈ kindOutcomes c word excl kind := by
  unfold outcomes
  cases c.kinds <;> simp

theorem editWord_nil (hk : c.kinds = []) (c1 c2 : Nat) : editWord c word excl c1 c2 = (word, normExcl excl) := by
  unfold editWord
  rw [hk]

theorem editWord_cons {k : EdKind} {ks : List EdKind} (hk : c.kinds = k :: ks) (c1 c2 : Nat) :
    editWord c word excl c1 c2 =
      (kindOutcomes c word excl (c.kinds.getD (c1 % c.kinds.length) k)).getD
        (c2 % (kindOutcomes c word excl (c.kinds.getD (c1 % c.kinds.length) k)).length) (word, normExcl excl) := by
  unfold editWord
  rw [hk]
  rfl

/-- every context-table entry offers at least one edit string (otherwise `sample_edit` panics on
`WeightedIndex::new(&[])`) -/
def TablesNonempty (c : EditCfg) : Prop :=
  (∀ t, c.insert = some t → ∀ en ∈ t, en.2 ≠ []) ∧ (∀ t, c.replace = some t → ∀ en ∈ t, en.2 ≠ [])

theorem insertLookup_mem {tbl} {es : List (List Cl)} (h : insertLookup tbl word idx = some es) :
    ∃ en ∈ tbl, en.2 = es := by
  obtain ⟨en, hf, rfl⟩ := Option.map_eq_some_iff.1 h
  exact ⟨en, List.mem_of_find?_eq_some hf, rfl⟩

theorem replaceLookup_mem {tbl} {es : List (List Cl)} (h : replaceLookup tbl word idx = some es) :
    ∃ en ∈ tbl, en.2 = es := by
  simp only [replaceLookup] at h
  split at h
  · cases h
  · obtain ⟨en, hf, rfl⟩ := Option.map_eq_some_iff.1 h
    exact ⟨en, List.mem_of_find?_eq_some hf, rfl⟩

theorem ifEmpty_flatMap_ne_nil {α β} {l : List α} {d : β} {g : α → List β} (hg : ∀ a ∈ l, g a ≠ []) :
    (if l.isEmpty then [d] else l.flatMap g) ≠ [] := by
  cases l with
  | nil => exact List.cons_ne_nil _ _
  | cons a t => exact fun h => hg a List.mem_cons_self (List.flatMap_eq_nil_iff.1 h a List.mem_cons_self)

theorem ifEmpty_map_ne_nil {α β} {l : List α} {d : β} {g : α → β} : (if l.isEmpty then [d] else l.map g) ≠ [] := by
  cases l <;> exact List.cons_ne_nil _ _

theorem kindOutcomes_ne_nil (hc : TablesNonempty c) (word : List Cl) (excl : List Nat) (kind : EdKind) :
    kindOutcomes c word excl kind ≠ [] := by
  cases kind with
  | ins =>
    refine ifEmpty_flatMap_ne_nil fun ⟨idx, es⟩ hp h => ?_
    obtain ⟨en, hen, rfl⟩ := insertLookup_mem (mem_tableCands hp).2.2
    exact forall_mem_getD hc.1 en hen (List.map_eq_nil_iff.1 h)
  | del => exact ifEmpty_map_ne_nil
  | rep =>
    refine ifEmpty_flatMap_ne_nil fun ⟨idx, es⟩ hp h => ?_
    obtain ⟨en, hen, rfl⟩ := replaceLookup_mem (mem_tableCands hp).2.2
    exact forall_mem_getD hc.2 en hen (List.map_eq_nil_iff.1 h)
  | swp =>
    show (if _ then _ else _) ≠ []
    by_cases hw : word.length ≤ 1
    · rw [if_pos hw]
      exact List.cons_ne_nil _ _
    · rw [if_neg hw]
      exact ifEmpty_map_ne_nil

theorem normExcl_sorted (l : List Nat) : (normExcl l).Pairwise (· < ·) := by
  have hs := List.pairwise_mergeSort (le := fun (a b : Nat) => decide (a ≤ b))
    (by intro a b c; simp; omega) (by intro a b; simp; omega) l
  obtain ⟨hn, hsub⟩ := eraseDups_nodup_sublist (l.mergeSort (· ≤ ·))
  exact ((hs.sublist hsub).and hn).imp fun h => Nat.lt_of_le_of_ne (by simpa using h.1) h.2

theorem normExcl_nodup (l : List Nat) : (normExcl l).Nodup :=
  (normExcl_sorted l).imp Nat.ne_of_lt

/-- insertion into a strictly sorted list, dropping duplicates -/
def insS (x : Nat) : List Nat → List Nat
  | [] => [x]
  | y :: ys => if x < y then x :: y :: ys else if x = y then y :: ys else y :: insS x ys

/-- `normExcl` by structural recursion (reduces in the kernel, so `decide` can evaluate it) -/
def normExclS (l : List Nat) : List Nat := l.foldr insS []

theorem mem_insS {x y : Nat} {l : List Nat} : y ∈ insS x l ↔ y = x ∨ y ∈ l := by
  induction l with
  | nil => simp [insS]
  | cons z zs ih =>
    unfold insS
    split
    · exact List.mem_cons
    · split
      · simp_all
      · rw [List.mem_cons, ih, List.mem_cons]; exact or_left_comm

theorem insS_sorted {x : Nat} {l : List Nat} (h : l.Pairwise (· < ·)) : (insS x l).Pairwise (· < ·) := by
  induction l with
  | nil => exact List.pairwise_singleton _ _
  | cons z zs ih =>
    have h' := List.pairwise_cons.1 h
    unfold insS
    split
    · refine List.pairwise_cons.2 ⟨fun w hw => ?_, h⟩
      rcases List.mem_cons.1 hw with rfl | hw
      · assumption
      · exact Nat.lt_trans ‹x < z› (h'.1 w hw)
    · split
      · exact h
      · refine List.pairwise_cons.2 ⟨fun w hw => ?_, ih h'.2⟩
        rcases mem_insS.1 hw with rfl | hw
        · omega
        · exact h'.1 w hw

theorem mem_normExclS {x : Nat} {l : List Nat} : x ∈ normExclS l ↔ x ∈ l := by
  induction l with
  | nil => exact Iff.rfl
  | cons a as ih => exact mem_insS.trans ((or_congr_right ih).trans List.mem_cons.symm)

theorem normExclS_sorted : ∀ l : List Nat, (normExclS l).Pairwise (· < ·)
  | [] => List.Pairwise.nil
  | _ :: as => insS_sorted (normExclS_sorted as)

theorem normExcl_eq_normExclS (l : List Nat) : normExcl l = normExclS l :=
  eq_of_perm_of_lt_sorted
    ((List.perm_ext_iff_of_nodup (normExcl_nodup l) ((normExclS_sorted l).imp Nat.ne_of_lt)).2 fun _ =>
      mem_normExcl.trans mem_normExclS.symm)
    (normExcl_sorted l) (normExclS_sorted l)

end Tu

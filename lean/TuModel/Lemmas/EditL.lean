import TuModel.Model.Edit
import TuModel.Lemmas.FlatTable
namespace Tu

/-- the reference dynamic programme as a recursive definition on *reversed prefixes* (the head of
each list is the last character of the prefix): Levenshtein without swaps, optimal string
alignment with swaps, whitespace never substituted or transposed under `sid`. -/
def osaR (fl : EFlags) : List (List Nat) → List (List Nat) → Nat
  | [], bs => bs.length
  | x :: as, [] => as.length + 1
  | x :: as, y :: bs =>
    (minByFst (candidates fl x y as.head? bs.head?
      (osaR fl as (y :: bs)) (osaR fl (x :: as) bs) (osaR fl as bs) (osaR fl as.tail bs.tail))).1
termination_by as bs => as.length + bs.length
decreasing_by
  all_goals simp only [List.length_cons, List.length_tail]
  all_goals omega

/-- edit scripts between reversed prefixes, with their cost -/
inductive Align (fl : EFlags) : List (List Nat) → List (List Nat) → Nat → Prop
  | nil : Align fl [] [] 0
  | del (x) {as bs n} : Align fl as bs n → Align fl (x :: as) bs (n + 1)
  | ins (y) {as bs n} : Align fl as bs n → Align fl as (y :: bs) (n + 1)
  | keep (x) {as bs n} : Align fl as bs n → Align fl (x :: as) (x :: bs) n
  | rep {x y as bs n} : x ≠ y → canReplace fl x y = true → Align fl as bs n → Align fl (x :: as) (y :: bs) (n + 1)
  | swp {x x' as bs n} : fl.swap = true → canReplace fl x x' = true → Align fl as bs n →
      Align fl (x :: x' :: as) (x' :: x :: bs) (n + 1)

theorem minByFst_mem {l : List (Nat × EOp)} (h : l ≠ []) : minByFst l ∈ l := by
  cases l with
  | nil => exact absurd rfl h
  | cons x xs => exact foldl_select_mem (fun m y => y.1 < m.1) xs x

theorem minByFst_le {l : List (Nat × EOp)} {z : Nat × EOp} (hz : z ∈ l) : (minByFst l).1 ≤ z.1 := by
  cases l with
  | nil => exact absurd hz List.not_mem_nil
  | cons x xs =>
    exact foldl_select_le (fun m y => y.1 < m.1) (fun u v => u.1 ≤ v.1) (fun _ => Nat.le_refl _)
      (fun _ _ _ => Nat.le_trans) (fun _ _ => Nat.le_of_lt) (fun _ _ => Nat.le_of_not_lt) xs x z hz

theorem canReplace_comm (fl : EFlags) (x y : List Nat) : canReplace fl x y = canReplace fl y x := by
  unfold canReplace; rw [Bool.and_comm]

theorem mem_candDiag {fl x y dD} {z : Nat × EOp} :
    z ∈ candDiag fl x y dD ↔ (x = y ∧ z = (dD, .keep)) ∨ (x ≠ y ∧ canReplace fl x y = true ∧ z = (dD + 1, .replace)) := by
  unfold candDiag
  by_cases hxy : x = y
  · rw [if_pos (beq_iff_eq.mpr hxy), List.mem_singleton]
    exact ⟨fun h => .inl ⟨hxy, h⟩, fun h => h.elim And.right fun h => absurd hxy h.1⟩
  · rw [if_neg (mt beq_iff_eq.mp hxy), List.mem_ite_nil_right, List.mem_singleton]
    exact ⟨fun h => .inr ⟨hxy, h⟩, fun h => h.elim (fun h => absurd h.1 hxy) And.right⟩

theorem mem_candSwap {fl x y x' y' dS} {z : Nat × EOp} :
    z ∈ candSwap fl x y x' y' dS ↔
      ∃ u v, x' = some u ∧ y' = some v ∧ fl.swap = true ∧ x = v ∧ u = y ∧ canReplace fl x u = true ∧ z = (dS + 1, .swap) := by
  unfold candSwap
  cases x' with
  | none => exact ⟨fun h => absurd h List.not_mem_nil, fun ⟨_, _, h, _⟩ => nomatch h⟩
  | some u =>
    cases y' with
    | none => exact ⟨fun h => absurd h List.not_mem_nil, fun ⟨_, _, _, h, _⟩ => nomatch h⟩
    | some v =>
      simp only [List.mem_ite_nil_right, List.mem_singleton, Bool.and_eq_true, beq_iff_eq, Option.some.injEq, and_assoc,
        exists_and_left, exists_eq_left']

theorem mem_candidates {fl x y x' y' dU dL dD dS} {z : Nat × EOp} :
    z ∈ candidates fl x y x' y' dU dL dD dS ↔
      z = (dU + 1, .delete) ∨ z = (dL + 1, .insert) ∨ (x = y ∧ z = (dD, .keep)) ∨
      (x ≠ y ∧ canReplace fl x y = true ∧ z = (dD + 1, .replace)) ∨
      (∃ u v, x' = some u ∧ y' = some v ∧ fl.swap = true ∧ x = v ∧ u = y ∧ canReplace fl x u = true ∧ z = (dS + 1, .swap)) := by
  unfold candidates
  simp only [List.mem_cons, List.mem_append, mem_candDiag, mem_candSwap, or_assoc]

theorem candidates_ne_nil {fl x y x' y' dU dL dD dS} : candidates fl x y x' y' dU dL dD dS ≠ [] :=
  List.cons_ne_nil _ _

theorem candidates_swap_irrel {fl x y x' y' dU dL dD} (dS dS' : Nat) (h : x' = none ∨ y' = none) :
    candidates fl x y x' y' dU dL dD dS = candidates fl x y x' y' dU dL dD dS' := by
  unfold candidates candSwap
  rcases h with rfl | rfl
  · rfl
  · cases x' <;> rfl

theorem osaR_nil_left (fl : EFlags) (bs : List (List Nat)) : osaR fl [] bs = bs.length := by
  rw [osaR]

theorem osaR_nil_right (fl : EFlags) (as : List (List Nat)) : osaR fl as [] = as.length := by
  cases as with
  | nil => rw [osaR]
  | cons x as => rw [osaR]; rfl

theorem osaR_cons (fl : EFlags) (x y : List Nat) (as bs : List (List Nat)) :
    osaR fl (x :: as) (y :: bs) =
      (minByFst (candidates fl x y as.head? bs.head?
        (osaR fl as (y :: bs)) (osaR fl (x :: as) bs) (osaR fl as bs) (osaR fl as.tail bs.tail))).1 := by
  rw [osaR]

/-- the recurrence in its familiar form: the value is below each applicable candidate (and equal to one of them,
`osaR_cons_cases`) -/
theorem osaR_cons_le (fl : EFlags) (x y : List Nat) (as bs : List (List Nat)) :
    osaR fl (x :: as) (y :: bs) ≤ osaR fl as (y :: bs) + 1 ∧
    osaR fl (x :: as) (y :: bs) ≤ osaR fl (x :: as) bs + 1 ∧
    (x = y → osaR fl (x :: as) (y :: bs) ≤ osaR fl as bs) ∧
    (x ≠ y → canReplace fl x y = true → osaR fl (x :: as) (y :: bs) ≤ osaR fl as bs + 1) ∧
    (∀ as' bs', as = y :: as' → bs = x :: bs' → fl.swap = true → canReplace fl x y = true →
      osaR fl (x :: as) (y :: bs) ≤ osaR fl as' bs' + 1) := by
  rw [osaR_cons]
  refine ⟨minByFst_le (mem_candidates.mpr (.inl rfl)), minByFst_le (mem_candidates.mpr (.inr (.inl rfl))),
    fun h => minByFst_le (mem_candidates.mpr (.inr (.inr (.inl ⟨h, rfl⟩)))),
    fun h hr => minByFst_le (mem_candidates.mpr (.inr (.inr (.inr (.inl ⟨h, hr, rfl⟩))))), ?_⟩
  rintro as' bs' rfl rfl hs hr
  exact minByFst_le (mem_candidates.mpr (.inr (.inr (.inr (.inr ⟨y, x, rfl, rfl, hs, rfl, rfl, hr, rfl⟩)))))

theorem osaR_cons_cases (fl : EFlags) (x y : List Nat) (as bs : List (List Nat)) :
    osaR fl (x :: as) (y :: bs) = osaR fl as (y :: bs) + 1 ∨
    osaR fl (x :: as) (y :: bs) = osaR fl (x :: as) bs + 1 ∨
    (x = y ∧ osaR fl (x :: as) (y :: bs) = osaR fl as bs) ∨
    (x ≠ y ∧ canReplace fl x y = true ∧ osaR fl (x :: as) (y :: bs) = osaR fl as bs + 1) ∨
    (∃ as' bs', as = y :: as' ∧ bs = x :: bs' ∧ fl.swap = true ∧ canReplace fl x y = true ∧
      osaR fl (x :: as) (y :: bs) = osaR fl as' bs' + 1) := by
  rw [osaR_cons]
  rcases mem_candidates.mp (minByFst_mem candidates_ne_nil) with
    h | h | ⟨he, h⟩ | ⟨hne, hr, h⟩ | ⟨u, v, hu, hv, hs, rfl, rfl, hr, h⟩
  · exact .inl (congrArg Prod.fst h)
  · exact .inr (.inl (congrArg Prod.fst h))
  · exact .inr (.inr (.inl ⟨he, congrArg Prod.fst h⟩))
  · exact .inr (.inr (.inr (.inl ⟨hne, hr, congrArg Prod.fst h⟩)))
  · obtain ⟨as', rfl⟩ := List.head?_eq_some_iff.mp hu
    obtain ⟨bs', rfl⟩ := List.head?_eq_some_iff.mp hv
    exact .inr (.inr (.inr (.inr ⟨as', bs', rfl, rfl, hs, hr, congrArg Prod.fst h⟩)))

theorem align_refl (fl : EFlags) (as : List (List Nat)) : Align fl as as 0 := by
  induction as with
  | nil => exact .nil
  | cons x as ih => exact .keep x ih

theorem align_zero_eq {fl : EFlags} {as bs : List (List Nat)} {n : Nat} (h : Align fl as bs n) (hn : n = 0) : as = bs := by
  induction h with
  | nil => rfl
  | del _ _ _ => omega
  | ins _ _ _ => omega
  | keep x _ ih => rw [ih hn]
  | rep _ _ _ _ => omega
  | swp _ _ _ _ => omega

theorem align_ins_all (fl : EFlags) (bs : List (List Nat)) : Align fl [] bs bs.length := by
  induction bs with
  | nil => exact .nil
  | cons y bs ih => exact .ins y ih

theorem align_del_all (fl : EFlags) (as : List (List Nat)) : Align fl as [] as.length := by
  induction as with
  | nil => exact .nil
  | cons x as ih => exact .del x ih

theorem osa_min {fl : EFlags} {as bs : List (List Nat)} {n : Nat} (h : Align fl as bs n) : osaR fl as bs ≤ n := by
  induction h with
  | nil => rw [osaR_nil_left]; exact Nat.le_refl _
  | @del x as bs n _ ih =>
    cases bs with
    | nil => rw [osaR_nil_right] at ih ⊢; exact Nat.succ_le_succ ih
    | cons y bs => exact Nat.le_trans (osaR_cons_le fl x y as bs).1 (Nat.succ_le_succ ih)
  | @ins y as bs n _ ih =>
    cases as with
    | nil => rw [osaR_nil_left] at ih ⊢; exact Nat.succ_le_succ ih
    | cons x as => exact Nat.le_trans (osaR_cons_le fl x y as bs).2.1 (Nat.succ_le_succ ih)
  | @keep x as bs n _ ih => exact Nat.le_trans ((osaR_cons_le fl x x as bs).2.2.1 rfl) ih
  | @rep x y as bs n hne hr _ ih =>
    exact Nat.le_trans ((osaR_cons_le fl x y as bs).2.2.2.1 hne hr) (Nat.succ_le_succ ih)
  | @swp x x' as bs n hs hr _ ih =>
    exact Nat.le_trans ((osaR_cons_le fl x x' _ _).2.2.2.2 as bs rfl rfl hs hr) (Nat.succ_le_succ ih)

/-- with `osa_min`: the recurrence computes the minimum cost over all scripts -/
theorem osaR_align (fl : EFlags) (as bs : List (List Nat)) : Align fl as bs (osaR fl as bs) := by
  induction as, bs using osaR.induct with
  | case1 bs => rw [osaR_nil_left]; exact align_ins_all fl bs
  | case2 x as => rw [osaR_nil_right]; exact align_del_all fl (x :: as)
  | case3 x as y bs ih1 ih2 ih3 ih4 =>
    rcases osaR_cons_cases fl x y as bs with h | h | ⟨rfl, h⟩ | ⟨hne, hr, h⟩ | ⟨as', bs', rfl, rfl, hs, hr, h⟩
    · rw [h]; exact .del x ih1
    · rw [h]; exact .ins y ih2
    · rw [h]; exact .keep x ih3
    · rw [h]; exact .rep hne hr ih3
    · rw [h]; exact .swp hs hr ih4

theorem align_append {fl : EFlags} {as bs as' bs' : List (List Nat)} {n m : Nat} (h : Align fl as bs n)
    (h' : Align fl as' bs' m) : Align fl (as ++ as') (bs ++ bs') (n + m) := by
  -- with the cost of `h` on the right every case holds by unfolding `+`
  rw [Nat.add_comm]
  induction h with
  | nil => exact h'
  | del x _ ih => exact .del x ih
  | ins y _ ih => exact .ins y ih
  | keep x _ ih => exact .keep x ih
  | rep hne hr _ ih => exact .rep hne hr ih
  | swp hs hr _ ih => exact .swp hs hr ih

theorem align_del_ins (fl : EFlags) (as bs : List (List Nat)) : Align fl as bs (as.length + bs.length) := by
  have := align_append (align_del_all fl as) (align_ins_all fl bs)
  rwa [List.append_nil, List.nil_append] at this

theorem align_le_max (fl : EFlags) (hs : fl.sid = false) (as : List (List Nat)) :
    ∀ bs : List (List Nat), ∃ n, n ≤ max as.length bs.length ∧ Align fl as bs n := by
  induction as with
  | nil => exact fun bs => ⟨bs.length, Nat.le_max_right _ _, align_ins_all fl bs⟩
  | cons x as ih =>
    intro bs
    cases bs with
    | nil => exact ⟨(x :: as).length, Nat.le_max_left _ _, align_del_all fl (x :: as)⟩
    | cons y bs =>
      obtain ⟨n, hn, hal⟩ := ih bs
      rw [List.length_cons, List.length_cons]
      by_cases hxy : x = y
      · exact ⟨n, by omega, hxy ▸ .keep x hal⟩
      · exact ⟨n + 1, by omega, .rep hxy (by rw [canReplace, hs]; rfl) hal⟩

theorem align_reverse {fl : EFlags} {as bs : List (List Nat)} {n : Nat}
    (h : Align fl as bs n) : Align fl as.reverse bs.reverse n := by
  induction h with
  | nil => exact .nil
  | @del x _ bs _ _ ih => rw [List.reverse_cons, ← List.append_nil bs.reverse]; exact align_append ih (.del x .nil)
  | @ins y as _ _ _ ih => rw [List.reverse_cons, ← List.append_nil as.reverse]; exact align_append ih (.ins y .nil)
  | keep x _ ih => rw [List.reverse_cons, List.reverse_cons]; exact align_append ih (.keep x .nil)
  | rep hne hr _ ih => rw [List.reverse_cons, List.reverse_cons]; exact align_append ih (.rep hne hr .nil)
  | @swp x x' as bs _ hs hr _ ih =>
    rw [show (x :: x' :: as).reverse = as.reverse ++ [x', x] by simp,
      show (x' :: x :: bs).reverse = bs.reverse ++ [x, x'] by simp]
    exact align_append ih (.swp hs (by rw [canReplace_comm]; exact hr) .nil)

theorem align_keep_prefix {fl : EFlags} (c : List (List Nat)) {as bs : List (List Nat)} {n : Nat}
    (h : Align fl as bs n) : Align fl (c ++ as) (c ++ bs) n :=
  Nat.zero_add n ▸ align_append (align_refl fl c) h

end Tu

/-
  Lemmas for the `Dictionary::save` / `Dictionary::load` round trip (Model/DictFile.lean), one layer each:
  decimal digits, `parseUsize`, lines that `trim` and the `'\r'` stripping leave alone, splitting at tabs and
  line feeds, the shape of a saved line, the map; and what `parseLine` can return.
-/
import TuModel.Model.DictFile
import TuModel.Lemmas.TextL
namespace Tu
namespace DictFileL

theorem isDigit_not_ws {c : Nat} (h : isDigit c = true) : isWsCp c = false := by
  simp only [isDigit, Bool.and_eq_true, decide_eq_true_eq] at h
  simp only [isWsCp, Bool.or_eq_false_iff, Bool.and_eq_false_iff, decide_eq_false_iff_not, beq_eq_false_iff_ne]
  omega

theorem mem_decDigits {n c : Nat} (h : c ∈ decDigits n) : isDigit c = true := by
  obtain ⟨d, hd, rfl⟩ := List.mem_map.1 h
  have := Nat.isDigit_of_mem_toDigits (by decide) (by decide) hd
  simp only [Char.isDigit, ge_iff_le, Bool.and_eq_true, decide_eq_true_eq, UInt32.le_iff_toNat_le] at this
  simp only [isDigit, Bool.and_eq_true, decide_eq_true_eq]
  exact this

theorem decDigits_ne_nil (n : Nat) : decDigits n ≠ [] :=
  fun h => Nat.toDigits_ne_nil (List.map_eq_nil_iff.1 h)

theorem digitsVal_decDigits (n : Nat) : digitsVal (decDigits n) = n := by
  have (cs : List Char) (init : Nat) :
      (cs.map (fun c => c.toNat)).foldl (fun a c => a * 10 + (c - 48)) init = Nat.ofDigitChars 10 cs init := by
    induction cs generalizing init with
    | nil => rfl
    | cons c cs ih =>
      rw [List.map_cons, List.foldl_cons, ih, Nat.ofDigitChars_cons, Nat.mul_comm]
      rfl
  exact (this _ 0).trans Nat.ofDigitChars_ten_toDigits

theorem decDigits_head (n : Nat) : ∃ c r, decDigits n = c :: r ∧ isDigit c = true := by
  cases h : decDigits n with
  | nil => exact absurd h (decDigits_ne_nil n)
  | cons c r => exact ⟨c, r, rfl, mem_decDigits (h ▸ List.mem_cons_self)⟩

theorem parseUsize_digits {d : List Nat} (hne : d ≠ []) (hall : ∀ c ∈ d, isDigit c = true) (hlt : digitsVal d < 2 ^ 64) :
    parseUsize d = some (digitsVal d) := by
  cases d with
  | nil => exact absurd rfl hne
  | cons c r =>
    have hc43 : c ≠ 43 := fun e => by
      have := hall c List.mem_cons_self
      subst e; exact Bool.noConfusion this
    unfold parseUsize
    split
    · rename_i heq
      exact absurd (List.cons.inj heq).1 hc43
    · rw [if_neg (by simp), if_pos (List.all_eq_true.2 hall), if_pos hlt]

theorem parseUsize_some {s : List Nat} {n : Nat} (h : parseUsize s = some n) : n < 2 ^ 64 := by
  simp only [parseUsize, Option.ite_none_left_eq_some, Option.ite_none_right_eq_some, Option.some.injEq] at h
  exact h.2.2.2 ▸ h.2.2.1

theorem stripCr_eq_self {l : List Nat} (h : ∀ b ∈ l.getLast?, isWsCp b = false) : stripCr l = l := by
  unfold stripCr
  split
  · rename_i r heq
    -- `'\r'` is white space
    exact Bool.noConfusion (h 13 (by rw [List.getLast?_eq_head?_reverse, heq]; rfl))
  · rfl

theorem splitTabAux_eq (s cur : List Nat) : splitTabAux s cur = List.splitOnPPrepend (· == 9) s cur := by
  induction s generalizing cur with
  | nil => rfl
  | cons c s ih => rw [splitTabAux, List.splitOnPPrepend_cons_eq_if, ih, ih]; rfl

theorem splitTab_eq (s : List Nat) : splitTab s = s.splitOn 9 := splitTabAux_eq s []

theorem splitTab_key_val {k d : List Nat} (hk : 9 ∉ k) (hd : 9 ∉ d) : splitTab (k ++ 9 :: d) = [k, d] := by
  rw [splitTab_eq, List.splitOn_append_cons_self_of_not_mem hk, List.splitOn_eq_singleton hd]

theorem head?_splitOn {α : Type} [BEq α] (a : α) (s : List α) :
    (s.splitOn a).head? = some (s.takeWhile (· != a)) := by
  induction s with
  | nil => rfl
  | cons c s ih =>
    rw [List.splitOn_cons_eq_if_modifyHead, List.takeWhile_cons, bne]
    cases c == a
    · rw [if_neg Bool.false_ne_true, List.head?_modifyHead, ih]; rfl
    · rfl

theorem linesAux_line (s rest cur : List Nat) (h : 10 ∉ s) :
    linesAux (s ++ 10 :: rest) cur = (cur.reverse ++ s) :: linesAux rest [] := by
  induction s generalizing cur with
  | nil => simp [linesAux]
  | cons c s ih =>
    rw [List.mem_cons, not_or] at h
    rw [List.cons_append, linesAux, if_neg (by simpa using Ne.symm h.1), ih _ h.2]
    simp

theorem fileLines_flatMap {α : Type} (f : α → List Nat) (l : List α)
    (h : ∀ e ∈ l, 10 ∉ f e ∧ ∀ b ∈ (f e).getLast?, isWsCp b = false) :
    fileLines (l.flatMap fun e => f e ++ [10]) = l.map f := by
  induction l with
  | nil => rfl
  | cons e l ih =>
    rw [List.forall_mem_cons] at h
    have ih := ih h.2
    rw [fileLines] at ih ⊢
    rw [List.flatMap_cons, List.append_assoc, List.singleton_append, linesAux_line _ _ _ h.1.1, List.map_cons, ih,
      List.map_cons, List.reverse_nil, List.nil_append, stripCr_eq_self h.1.2]

theorem keyOk_iff {k : Key} :
    keyOk k = true ↔ k ≠ [] ∧ 9 ∉ k ∧ 10 ∉ k ∧ ∀ a ∈ k.head?, isWsCp a = false := by
  simp only [keyOk, Bool.and_eq_true, Bool.not_eq_true', List.isEmpty_eq_false_iff, List.contains_eq_mem,
    decide_eq_false_iff_not, Option.any_eq_false, and_assoc, ne_eq, Option.mem_def]

theorem saveLine_ends {k : Key} (hk : keyOk k = true) (v : Nat) :
    10 ∉ k ++ [9] ++ decDigits v ∧ (∀ a ∈ (k ++ [9] ++ decDigits v).head?, isWsCp a = false) ∧
      ∀ b ∈ (k ++ [9] ++ decDigits v).getLast?, isWsCp b = false := by
  obtain ⟨hne, -, h10, hw⟩ := keyOk_iff.1 hk
  refine ⟨?_, ?_, fun b hb => ?_⟩
  · simp only [List.mem_append, List.mem_singleton, not_or]
    exact ⟨⟨h10, by decide⟩, fun h => Bool.noConfusion (mem_decDigits h)⟩
  · cases k with
    | nil => exact absurd rfl hne
    | cons a t => exact hw
  · rw [Option.mem_def, List.getLast?_eq_some_getLast (List.append_ne_nil_of_right_ne_nil _ (decDigits_ne_nil v)),
      Option.some.injEq, List.getLast_append_of_ne_nil _ (decDigits_ne_nil v)] at hb
    exact hb ▸ isDigit_not_ws (mem_decDigits (List.getLast_mem _))

theorem mapInsert_new (m : List (Key × Nat)) (k : Key) (v : Nat) (h : k ∉ m.map (·.1)) :
    mapInsert m k v = m ++ [(k, v)] := by
  unfold mapInsert
  have : m.any (fun e => e.1 == k) = false := by
    rw [List.any_eq_false]
    intro e he hek
    exact h (List.mem_map.2 ⟨e, he, eq_of_beq hek⟩)
  rw [this]; rfl

theorem foldl_mapInsert (l acc : List (Key × Nat)) (h : ((acc ++ l).map (·.1)).Nodup) :
    l.foldl (fun m e => mapInsert m e.1 e.2) acc = acc ++ l := by
  induction l generalizing acc with
  | nil => simp
  | cons e l ih =>
    have hnew : e.1 ∉ acc.map (·.1) := by
      rw [List.map_append, List.map_cons, List.nodup_append] at h
      intro hm
      exact h.2.2 _ hm _ List.mem_cons_self rfl
    rw [List.foldl_cons, mapInsert_new acc e.1 e.2 hnew]
    rw [List.append_cons acc e l] at h ⊢
    exact ih _ h

theorem parseLine_some {line : List Nat} {k : Key} {v : Nat} (h : parseLine line = some (k, v)) :
    ∃ w, splitTab (trimCl line) = [k, w] ∧ parseUsize w = some v := by
  unfold parseLine at h
  split at h
  · rename_i k' w heq
    obtain ⟨n, hn, e⟩ := Option.map_eq_some_iff.1 h
    cases e
    exact ⟨w, heq, hn⟩
  · cases h

end DictFileL
end Tu

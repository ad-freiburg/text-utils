/-
  The incremental BPE trainer (Model/BpeTrainInc.lean), the merge loop.  `CorpusWf` (tokens non-empty, unique segmentation)
  makes the merged token new and is kept by a merge; the corpus is always the segmentation `segOf` of its bytes by the
  merges made so far (`SegInv`), which gives `CorpusWf` at the start and distinct merged tokens along a run.  On exact
  statistics `max_byte_pair` chooses as the recount does, and `trainRun_greedy`: the loop refines the recount.
-/
import TuModel.Lemmas.BpeTrainStep
import TuModel.Lemmas.BpeTrainL
import TuModel.Lemmas.ListL
namespace Tu.BpeTrainIncL
open Tu

def UniqueSeg (c : Corpus) : Prop :=
  ∀ e1 ∈ c, ∀ e2 ∈ c, ∀ R1 R2 : List Tok, R1 <:+: e1.1 → R2 <:+: e2.1 → R1.flatten = R2.flatten → R1 = R2

def CorpusWf (c : Corpus) : Prop := (∀ e ∈ c, ∀ t ∈ e.1, t ≠ []) ∧ UniqueSeg c

theorem UniqueSeg.fresh {c : Corpus} (h : UniqueSeg c) (p : BPair) (hp : 0 < pairFreq c p) :
    ∀ e ∈ c, (p.1 ++ p.2) ∉ e.1 := by
  intro e he hm
  obtain ⟨w0, n0, hw0, hpw0⟩ := pairFreq_pos_occurs c p hp
  have h1 : [p.1, p.2] <:+: w0 := wordPairs_infix w0 p hpw0
  have h2 : [p.1 ++ p.2] <:+: e.1 := by
    obtain ⟨A, B, hAB⟩ := List.append_of_mem hm
    exact ⟨A, B, by rw [hAB]; simp⟩
  have := h (w0, n0) hw0 e he [p.1, p.2] [p.1 ++ p.2] h1 h2 (by simp)
  simp at this

theorem CorpusWf.applyMerge {c : Corpus} (h : CorpusWf c) (p : BPair) (hp : 0 < pairFreq c p) : CorpusWf (applyMerge c p) := by
  obtain ⟨hx, hy⟩ := pair_nonempty c p h.1 hp
  refine ⟨?_, ?_⟩
  · intro e he t ht
    obtain ⟨w, n, hw, rfl⟩ := mem_applyMerge c p e he
    rw [replacePairInWord_eq_rep w p.1 p.2 hy] at ht
    rcases rep_mem p.1 p.2 w t ht with h1 | h1
    · exact h.1 _ hw t h1
    · rw [h1]; intro hh; exact hx (List.append_eq_nil_iff.mp hh).1
  · intro e1 he1 e2 he2 R1 R2 hR1 hR2 hfl
    obtain ⟨w1, n1, hw1, rfl⟩ := mem_applyMerge c p e1 he1
    obtain ⟨w2, n2, hw2, rfl⟩ := mem_applyMerge c p e2 he2
    simp only [replacePairInWord_eq_rep _ p.1 p.2 hy] at hR1 hR2
    obtain ⟨R1', g1, g2⟩ := rep_infix p.1 p.2 w1 R1 hR1
    obtain ⟨R2', g3, g4⟩ := rep_infix p.1 p.2 w2 R2 hR2
    have : R1' = R2' := by
      apply h.2 (w1, n1) hw1 (w2, n2) hw2 R1' R2' g1 g3
      rw [← rep_flatten p.1 p.2 R1', ← rep_flatten p.1 p.2 R2', g2, g4, hfl]
    rw [← g2, ← g4, this]

def segOf (ps : List BPair) (bytes : List Nat) : List Tok :=
  ps.foldl (fun w p => replacePairInWord w p.1 p.2) (bytes.map (fun b => [b]))

theorem segOf_append (ps qs : List BPair) (bytes : List Nat) :
    segOf (ps ++ qs) bytes = qs.foldl (fun w p => replacePairInWord w p.1 p.2) (segOf ps bytes) := by
  unfold segOf
  rw [List.foldl_append]

theorem segOf_snoc (ps : List BPair) (p : BPair) (bytes : List Nat) :
    segOf (ps ++ [p]) bytes = replacePairInWord (segOf ps bytes) p.1 p.2 :=
  segOf_append ps [p] bytes

def SegInv (ps : List BPair) (c : Corpus) : Prop := ∀ e ∈ c, ∀ R : List Tok, R <:+: e.1 → segOf ps R.flatten = R

theorem SegInv.uniqueSeg {ps : List BPair} {c : Corpus} (h : SegInv ps c) : UniqueSeg c :=
  fun e1 h1 e2 h2 R1 R2 i1 i2 hfl => by rw [← h e1 h1 R1 i1, ← h e2 h2 R2 i2, hfl]

theorem singletons_eq : ∀ (R : List Tok), (∀ t ∈ R, ∃ b, t = [b]) → R = R.flatten.map (fun b => [b]) := by
  intro R
  induction R with
  | nil => intro _; rfl
  | cons t r ih =>
    intro h
    obtain ⟨b, rfl⟩ := h t (by simp)
    rw [List.flatten_cons, List.map_append, ← ih (fun t ht => h t (List.mem_cons_of_mem _ ht))]
    rfl

theorem SegInv_init (words : List (List Nat × Nat)) : SegInv [] (initCorpus words) :=
  fun e he R hR => (singletons_eq R fun t ht =>
    have ⟨_, _, b, _, h⟩ := initCorpus_token words e he t (hR.subset ht)
    ⟨b, h⟩).symm

theorem CorpusWf_init (words : List (List Nat × Nat)) : CorpusWf (initCorpus words) :=
  ⟨fun e he t ht => by obtain ⟨_, _, b, _, rfl⟩ := initCorpus_token words e he t ht; exact List.cons_ne_nil _ _,
    (SegInv_init words).uniqueSeg⟩

theorem SegInv_step (ps : List BPair) (c : Corpus) (p : BPair) (h : SegInv ps c) (hy : p.2 ≠ []) :
    SegInv (ps ++ [p]) (applyMerge c p) := by
  intro e he R hR
  obtain ⟨w, n, hw, rfl⟩ := mem_applyMerge c p e he
  simp only [replacePairInWord_eq_rep _ p.1 p.2 hy] at hR
  obtain ⟨R', g1, g2⟩ := rep_infix p.1 p.2 w R hR
  rw [segOf_snoc, ← g2, rep_flatten, h (w, n) hw R' g1, replacePairInWord_eq_rep _ p.1 p.2 hy]

theorem SegInv.pair {ps : List BPair} {c : Corpus} (h : SegInv ps c) (p : BPair) (hp : 0 < pairFreq c p) :
    segOf ps (p.1 ++ p.2) = [p.1, p.2] := by
  obtain ⟨w0, n0, hw0, hpw0⟩ := pairFreq_pos_occurs c p hp
  have := h (w0, n0) hw0 [p.1, p.2] (wordPairs_infix w0 p hpw0)
  simpa using this

theorem replacePairInWord_single (t x y : Tok) : replacePairInWord [t] x y = [t] := by
  unfold replacePairInWord
  rw [replacePairAux, replacePairAux]
  rfl

theorem foldl_replace_single (t : Tok) : ∀ (qs : List BPair), qs.foldl (fun w p => replacePairInWord w p.1 p.2) [t] = [t] := by
  intro qs
  induction qs with
  | nil => rfl
  | cons q r ih => rw [List.foldl_cons, replacePairInWord_single, ih]

theorem segOf_after (ps qs : List BPair) (p : BPair) (hy : p.2 ≠ []) (h : segOf ps (p.1 ++ p.2) = [p.1, p.2]) :
    segOf (ps ++ p :: qs) (p.1 ++ p.2) = [p.1 ++ p.2] := by
  rw [List.append_cons, segOf_append, segOf_snoc, h, replacePairInWord_eq_rep _ p.1 p.2 hy, rep_match, rep_nil]
  exact foldl_replace_single _ qs

theorem StatsOk.entry_of_occurs {c : Corpus} {st : Stats} (h : StatsOk c st) (q : BPair) (hq : q ∈ allPairs c) :
    ∃ info, (q, info) ∈ st := by
  obtain ⟨w, n, hw, hqw⟩ := (BpeTrainL.mem_allPairs c q).mp hq
  obtain ⟨i, hi⟩ := List.getElem?_of_mem hw
  have hpos : 0 < occOf st q i := by
    rw [(h.2 q).2 i, wcount_of_get c i q w n hi]
    exact (cnt_pos_iff q _).mpr hqw
  obtain ⟨info, h1, _⟩ := occOf_pos_hasKey st q i hpos
  exact ⟨info, mem_of_alGet st q info h1⟩

theorem StatsOk.freq_of_mem {c : Corpus} {st : Stats} (h : StatsOk c st) (e : BPair × PairInfo) (he : e ∈ st) :
    e.2.1 = pairFreq c e.1 := by
  have hg := alGet_of_mem st h.1.1 e he
  have := (h.2 e.1).1
  unfold freqOf at this
  rw [hg] at this
  exact this

theorem StatsOk.statsExact {c : Corpus} {st : Stats} (h : StatsOk c st) : statsExact c st = true := by
  unfold Tu.statsExact
  rw [Bool.and_eq_true, Bool.and_eq_true]
  refine ⟨⟨?_, ?_⟩, ?_⟩
  · rw [List.all_eq_true]
    intro e he
    have hg := alGet_of_mem st h.1.1 e he
    rw [Bool.and_eq_true, Bool.and_eq_true]
    refine ⟨⟨?_, ?_⟩, ?_⟩
    · exact beq_iff_eq.mpr (h.freq_of_mem e he)
    · rw [List.all_eq_true]
      intro io hio
      exact decide_eq_true ((h.1.2 e.1 e.2 hg).2 io.1 (List.mem_map_of_mem hio))
    · rw [List.all_eq_true]
      intro i _
      have := (h.2 e.1).2 i
      unfold occOf at this
      rw [hg] at this
      rw [find?_eq_alGet]
      exact beq_iff_eq.mpr this
  · have hnd : (st.map (fun x => x.1)).Nodup := h.1.1
    rw [eraseDups_of_nodup _ hnd, List.length_map]
    simp
  · rw [List.all_eq_true]
    intro q hq
    obtain ⟨info, hm⟩ := h.entry_of_occurs q hq
    rw [List.any_eq_true]
    exact ⟨(q, info), hm, by simp⟩

theorem StatsOk.maxPairFreq_le_iff {c : Corpus} {st : Stats} (h : StatsOk c st) (m : Nat) :
    maxPairFreq c ≤ m ↔ ∀ e ∈ st, e.2.1 ≤ m := by
  constructor
  · intro hm e he
    rw [h.freq_of_mem e he]
    exact Nat.le_trans (BpeTrainL.pairFreq_le_max c e.1) hm
  · intro hall
    refine (BpeTrainL.maxPairFreq_le_iff c m).mpr fun q hq => ?_
    obtain ⟨info, hm⟩ := h.entry_of_occurs q hq
    rw [← h.freq_of_mem _ hm]
    exact hall _ hm

theorem isMaxBytePair_iff {c : Corpus} {st : Stats} (h : StatsOk c st) (p : BPair) :
    isMaxBytePair st p = true ↔ (0 < pairFreq c p ∧ pairFreq c p = maxPairFreq c) := by
  unfold isMaxBytePair
  simp only [List.any_eq_true, Bool.and_eq_true, beq_iff_eq, decide_eq_true_eq, List.all_eq_true]
  constructor
  · rintro ⟨e, he, ⟨rfl, h2⟩, h3⟩
    rw [← h.freq_of_mem e he]
    exact ⟨h2, Nat.le_antisymm (h.freq_of_mem e he ▸ BpeTrainL.pairFreq_le_max c e.1) ((h.maxPairFreq_le_iff _).mpr h3)⟩
  · rintro ⟨h1, h2⟩
    obtain ⟨info, hinfo⟩ := alGet_of_freq_pos st p (by rw [(h.2 p).1]; exact h1)
    have hm := mem_of_alGet st p info hinfo
    have hf : info.1 = pairFreq c p := h.freq_of_mem _ hm
    exact ⟨(p, info), hm, ⟨rfl, hf ▸ h1⟩, (h.maxPairFreq_le_iff _).mp (by rw [hf, h2]; exact Nat.le_refl _)⟩

theorem noBytePair_iff {c : Corpus} {st : Stats} (h : StatsOk c st) : noBytePair st = true ↔ maxPairFreq c = 0 := by
  unfold noBytePair
  simp only [List.all_eq_true, beq_iff_eq]
  rw [← Nat.le_zero, h.maxPairFreq_le_iff]
  exact forall_congr' fun e => forall_congr' fun _ => Nat.le_zero.symm

def greedyChoices : Corpus → List BPair → Prop
  | _, [] => True
  | c, p :: ps => (0 < pairFreq c p ∧ pairFreq c p = maxPairFreq c) ∧ greedyChoices (applyMerge c p) ps

theorem greedyChoices_replay : ∀ (ps : List BPair) (c : Corpus), greedyChoices c ps →
    corpusAfter c ps ∈ greedyReplay c (ps.map (fun p => p.1 ++ p.2)) := by
  intro ps
  induction ps with
  | nil => intro c _; simp [corpusAfter, greedyReplay]
  | cons p ps ih =>
    intro c h
    obtain ⟨⟨h1, h2⟩, h3⟩ := h
    rw [List.map_cons, corpusAfter]
    exact (BpeTrainL.mem_greedyReplay_cons c _ _ _).mpr ⟨p, BpeTrainL.pairFreq_pos_mem c p h1, rfl, h2, by omega, ih _ h3⟩

theorem trainRun_greedy {c : Corpus} {st : Stats} (h : StatsOk c st) (hwf : CorpusWf c) (ps : List BPair) :
    ((trainRun (c, st) ps).isSome = true ↔ greedyChoices c ps) ∧
    ∀ s', trainRun (c, st) ps = some s' →
      s'.1 = corpusAfter c ps ∧ StatsOk s'.1 s'.2 ∧ CorpusWf s'.1 ∧ statsExact s'.1 s'.2 = true ∧
      s'.1 ∈ greedyReplay c (ps.map fun p => p.1 ++ p.2) ∧ (noBytePair s'.2 = true ↔ maxPairFreq s'.1 = 0) := by
  have core : ∀ (ps : List BPair) (c : Corpus) (st : Stats), StatsOk c st → CorpusWf c →
      ((trainRun (c, st) ps).isSome = true ↔ greedyChoices c ps) ∧
      ∀ s', trainRun (c, st) ps = some s' → s'.1 = corpusAfter c ps ∧ StatsOk s'.1 s'.2 ∧ CorpusWf s'.1 := by
    intro ps
    induction ps with
    | nil =>
      intro c st h hwf
      refine ⟨by simp [trainRun, greedyChoices], ?_⟩
      intro s' hs
      cases hs
      exact ⟨rfl, h, hwf⟩
    | cons p ps ih =>
      intro c st h hwf
      rw [trainRun]
      by_cases hmax : isMaxBytePair st p = true
      · rw [if_pos hmax]
        have hg := (isMaxBytePair_iff h p).mp hmax
        obtain ⟨st', hstep, hok⟩ := trainStep_ok c st p h hg.1 hwf.1 (hwf.2.fresh p hg.1)
        rw [hstep]
        obtain ⟨i1, i2⟩ := ih (applyMerge c p) st' hok (hwf.applyMerge p hg.1)
        exact ⟨i1.trans ⟨fun hh => ⟨hg, hh⟩, fun hh => hh.2⟩, i2⟩
      · rw [if_neg hmax]
        exact ⟨⟨fun hh => (by cases hh), fun hh => absurd ((isMaxBytePair_iff h p).mpr hh.1) hmax⟩, fun s' hs => by cases hs⟩
  obtain ⟨h1, h2⟩ := core ps c st h hwf
  refine ⟨h1, fun s' hs => ?_⟩
  obtain ⟨g1, g2, g3⟩ := h2 s' hs
  refine ⟨g1, g2, g3, g2.statsExact, ?_, noBytePair_iff g2⟩
  rw [g1]
  exact greedyChoices_replay ps _ (h1.mp (by rw [hs]; rfl))

/-- a byte string that is and stays a single token is not the merged token of a later choice: when chosen, a pair is
segmented as two tokens -/
theorem greedy_not_mem : ∀ (ps done : List BPair) (c : Corpus), SegInv done c → CorpusWf c → greedyChoices c ps →
    ∀ m : Tok, (∀ qs, segOf (done ++ qs) m = [m]) → m ∉ ps.map (fun p => p.1 ++ p.2) := by
  intro ps
  induction ps with
  | nil => intro _ _ _ _ _ _ _ h; cases h
  | cons p ps ih =>
    intro done c hs hwf hg m hm hmem
    obtain ⟨⟨h1, _⟩, h3⟩ := hg
    rcases List.mem_cons.mp hmem with rfl | hmem
    · have := hm []
      rw [List.append_nil, hs.pair p h1] at this
      exact List.cons_ne_nil _ _ (List.cons.inj this).2
    · exact ih (done ++ [p]) _ (SegInv_step done c p hs (pair_nonempty c p hwf.1 h1).2) (hwf.applyMerge p h1) h3 m
        (fun qs => by rw [List.append_assoc]; exact hm (p :: qs)) hmem

theorem greedy_nodup : ∀ (ps done : List BPair) (c : Corpus), SegInv done c → CorpusWf c → greedyChoices c ps →
    (ps.map (fun p => p.1 ++ p.2)).Nodup := by
  intro ps
  induction ps with
  | nil => intro _ _ _ _ _; exact List.nodup_nil
  | cons p0 ps ih =>
    intro done c hs hwf hg
    obtain ⟨⟨h1, _⟩, h3⟩ := hg
    have hy0 := (pair_nonempty c p0 hwf.1 h1).2
    have hs' := SegInv_step done c p0 hs hy0
    have hwf' := hwf.applyMerge p0 h1
    rw [List.map_cons, List.nodup_cons]
    exact ⟨greedy_not_mem ps _ _ hs' hwf' h3 _ fun qs => by
      rw [List.append_assoc]; exact segOf_after done qs p0 hy0 (hs.pair p0 h1), ih _ _ hs' hwf' h3⟩

theorem mem_infixesOf {α : Type} (l R : List α) : R ∈ infixesOf l ↔ R <:+: l := by
  unfold infixesOf
  simp only [List.mem_flatMap, List.mem_range, List.mem_map]
  constructor
  · rintro ⟨i, _, k, _, rfl⟩
    exact (List.take_prefix k _).isInfix.trans (List.drop_suffix i l).isInfix
  · rintro ⟨A, B, hAB⟩
    have hl := congrArg List.length hAB
    simp only [List.length_append] at hl
    refine ⟨A.length, by omega, R.length, by omega, ?_⟩
    rw [← hAB, List.append_assoc, List.drop_left, List.take_left]

theorem corpusWfB_iff (c : Corpus) : corpusWfB c = true ↔ CorpusWf c := by
  unfold corpusWfB CorpusWf UniqueSeg
  rw [Bool.and_eq_true]
  apply and_congr
  · simp only [List.all_eq_true, bne_iff_ne, ne_eq]
  · simp only [List.all_eq_true, mem_infixesOf, Bool.or_eq_true, bne_iff_ne, ne_eq, beq_iff_eq]
    constructor
    · intro h e1 he1 e2 he2 R1 R2 h1 h2 hfl
      rcases h e1 he1 e2 he2 R1 h1 R2 h2 with h3 | h3
      · exact absurd hfl h3
      · exact h3
    · intro h e1 he1 e2 he2 R1 h1 R2 h2
      by_cases hfl : R1.flatten = R2.flatten
      · exact Or.inr (h e1 he1 e2 he2 R1 R2 h1 h2 hfl)
      · exact Or.inl hfl

instance (c : Corpus) : Decidable (CorpusWf c) := decidable_of_iff _ (corpusWfB_iff c)

end Tu.BpeTrainIncL
